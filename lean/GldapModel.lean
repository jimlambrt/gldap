import GldapModel.Basic
import GldapModel.Ber.Basic
import GldapModel.Ber.Int
import GldapModel.Ber.Node
import GldapModel.Ber.Parse
import GldapModel.Ber.RoundTrip
import GldapModel.Runtime.Run
import GldapModel.Runtime.Access
import GldapModel.Generated.AccessTable
import GldapModel.Generated.Consts
import GldapModel.Gldap.Core
import GldapModel.Runtime.Writer
import GldapModel.Runtime.Server
import GldapModel.Runtime.ConnLoop
import GldapModel.Runtime.TlsGate
import GldapModel.Generated.Facts
import GldapModel.Gldap.Addr
import GldapModel.Gldap.Control
import GldapModel.Gldap.ControlEncode
import GldapModel.Gldap.Filter
import GldapModel.Gldap.Helpers
import GldapModel.Gldap.Response
import GldapModel.Gldap.Packet
import GldapModel.Gldap.Mux
import GldapModel.Gldap.Session
import GldapModel.Spec.ClientEncode
import GldapModel.Spec.ClientView
import GldapModel.Directory.Bind
import GldapModel.Directory.BindSession
import GldapModel.Directory.Store
import GldapModel.Directory.StoreSession
import GldapModel.Proofs.ConnLoopInv
import GldapModel.Proofs.Values
import GldapModel.Proofs.ControlRT
import GldapModel.Proofs.Decimal
import GldapModel.Proofs.FilterRT
import GldapModel.Proofs.FilterInj
import GldapModel.Proofs.NoPanic
import GldapModel.Proofs.ParsePrefix
import GldapModel.Proofs.ServerStep
import GldapModel.Proofs.ServerGeneric
import GldapModel.Proofs.ServerGood
import GldapModel.Proofs.ServerMeasure
import GldapModel.Proofs.StoreLemmas
import GldapModel.Proofs.StoreIdx
import GldapModel.Proofs.WriterInv
import GldapModel.Props.Addr
import GldapModel.Props.C02
import GldapModel.Props.C01
import GldapModel.Props.C03
import GldapModel.Props.C14
import GldapModel.Props.C04
import GldapModel.Props.C05
import GldapModel.Props.Session
import GldapModel.Props.C19
import GldapModel.Props.BindSession
import GldapModel.Props.C06
import GldapModel.Props.C07
import GldapModel.Props.C08
import GldapModel.Props.C09
import GldapModel.Props.C10
import GldapModel.Props.C11
import GldapModel.Props.C12
import GldapModel.Props.C13
import GldapModel.Props.C15
import GldapModel.Props.C16
import GldapModel.Props.C17
import GldapModel.Props.C18
import GldapModel.Props.C20
import GldapModel.Props.Filter
import GldapModel.Props.StoreSession
import GldapModel.Props.FilterSession
