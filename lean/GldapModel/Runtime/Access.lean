import GldapModel.Runtime.Run
/-! # Runtime.Access - lock discipline and the access table (C15)

Part 1 (threads as lists of acquire / release / access operations, standard mutex semantics):
whoever holds a mutex in its ghost lockset really owns it, hence two different threads are never
both inside sections protected by a common mutex. Part 2: the access table extracted from the
source (one row per syntactic field access: field, read/write, mutexes held, goroutine context,
function) is checked against a per-field policy; every conflicting pair of rows is then justified
by a common mutex, by confinement to one goroutine, or by being read-only after publication. -/
namespace Access

inductive Op where
  | acq (m : Nat) | rel (m : Nat) | acc (v : Nat) (w : Bool)
  deriving Repr, DecidableEq

structure St where
  held : Nat → Option Nat          -- mutex ↦ owner thread
  pc : Nat → Nat                   -- thread ↦ index into its program
  ls : Nat → List Nat              -- ghost: thread ↦ mutexes it acquired and not yet released

def upd {α} (f : Nat → α) (k : Nat) (v : α) : Nat → α := fun x => if x = k then v else f x

/-- thread `t` executes its next op -/
def step (prog : Nat → List Op) (s : St) (t : Nat) : Option St :=
  match (prog t)[s.pc t]? with
  | none => none
  | some (.acq m) =>
    if s.held m = none then
      some { held := upd s.held m (some t), pc := upd s.pc t (s.pc t + 1), ls := upd s.ls t (m :: s.ls t) }
    else none
  | some (.rel m) =>
    if m ∈ s.ls t then      -- well-bracketed programs only release what they hold
      some { held := upd s.held m none, pc := upd s.pc t (s.pc t + 1), ls := upd s.ls t ((s.ls t).erase m) }
    else none
  | some (.acc _ _) => some { s with pc := upd s.pc t (s.pc t + 1) }

def run (prog : Nat → List Op) : St → List Nat → Option St
  | s, [] => some s
  | s, t :: ts => (step prog s t).bind (run prog · ts)

def init : St := { held := fun _ => none, pc := fun _ => 0, ls := fun _ => [] }

/-- ghost lockset is sound: whoever lists m holds m; no duplicates -/
structure Inv (s : St) : Prop where
  owns : ∀ t m, m ∈ s.ls t → s.held m = some t
  nodup : ∀ t, (s.ls t).Nodup

theorem upd_same {α} (f : Nat → α) (k : Nat) (v : α) : upd f k v k = v := if_pos rfl
theorem upd_other {α} (f : Nat → α) {k x : Nat} (v : α) (h : x ≠ k) : upd f k v x = f x := if_neg h

theorem inv_step (prog) (s s' : St) (t : Nat) (h : Inv s) (hs : step prog s t = some s') : Inv s' := by
  revert s'
  fun_cases step prog s t <;> rintro _ ⟨⟩
  · -- `acq m`: `m` was free, so no lockset has it yet
    rename_i m _ hfree
    have hne : ∀ {t' m'}, m' ∈ s.ls t' → m' ≠ m := fun hm e => by simpa [e, hfree] using h.owns _ _ hm
    constructor
    · intro t' m' hm'
      by_cases ht : t' = t
      · subst ht
        simp only [upd_same] at hm'
        rcases List.mem_cons.mp hm' with rfl | hm'
        · exact upd_same ..
        · simp only [upd_other _ _ (hne hm')]; exact h.owns _ _ hm'
      · simp only [upd_other _ _ ht] at hm'
        simp only [upd_other _ _ (hne hm')]; exact h.owns _ _ hm'
    · intro t'
      by_cases ht : t' = t
      · subst ht
        simp only [upd_same]
        exact List.nodup_cons.mpr ⟨fun hm => hne hm rfl, h.nodup _⟩
      · simp only [upd_other _ _ ht]; exact h.nodup _
  · -- `rel m`: `t` owned `m`, so nobody else lists it, and `t` listed it once
    rename_i m _ hmem
    have hown := h.owns t m hmem
    constructor
    · intro t' m' hm'
      by_cases ht : t' = t
      · subst ht
        simp only [upd_same] at hm'
        have hne : m' ≠ m := fun e => List.Nodup.not_mem_erase (h.nodup _) (e ▸ hm')
        simp only [upd_other _ _ hne]; exact h.owns _ _ (List.mem_of_mem_erase hm')
      · simp only [upd_other _ _ ht] at hm'
        have hne : m' ≠ m := fun e => ht (Option.some.inj ((h.owns _ _ hm').symm.trans (e ▸ hown)))
        simp only [upd_other _ _ hne]; exact h.owns _ _ hm'
    · intro t'
      by_cases ht : t' = t
      · subst ht
        simp only [upd_same]; exact (h.nodup _).erase _
      · simp only [upd_other _ _ ht]; exact h.nodup _
  · -- `acc`: only the program counter moves
    exact ⟨h.owns, h.nodup⟩

theorem isRun (prog : Nat → List Op) : Run.IsRun (step prog) (run prog) := ⟨fun _ => rfl, fun _ _ _ => rfl⟩

theorem inv_run (prog) (ts : List Nat) (s s' : St) (h : Inv s) (hr : run prog s ts = some s') : Inv s' :=
  (isRun prog).invariant (fun hi hs => inv_step prog _ _ _ hi hs) hr h

/-- Two different threads are never both about to access while both (ghost-)hold a common mutex. -/
theorem no_race_under_common_lock (prog) (ts : List Nat) (s : St) (hr : run prog init ts = some s)
    (t1 t2 : Nat) (hne : t1 ≠ t2) (m : Nat) (h1 : m ∈ s.ls t1) (h2 : m ∈ s.ls t2) : False := by
  have h := inv_run prog ts init s ⟨by simp [init], by simp [init]⟩ hr
  have a := h.owns _ _ h1
  have b := h.owns _ _ h2
  rw [a] at b; simp at b; exact hne b



/-! ## Part 2: the access table -/

/-- one syntactic access. `ctx`: 0 constructor / before the object is shared, 1 set-up before Run
    (route registration, Server.Router), 2 the goroutine running Run, 3 a connection's own
    goroutine, 4 a request goroutine / handler, 5 any application goroutine -/
structure Row where
  field : String
  write : Bool
  locks : List String
  ctx : Nat
  fn : String
  deriving Repr, DecidableEq

inductive Policy where
  | lockedBy (m : String)                 -- every access after publication holds m
  | writerLocked (m : String) (owner : Nat) -- all writes by one context under m; other contexts access only under m
  | immutable                             -- written only before publication (ctx 0) or during set-up (ctx 1), read-only afterwards
  | ownedBy (ctx : Nat)                   -- touched by one goroutine context only (one instance per object)
  | sync                                  -- a synchronisation object (mutex, wait group) or a field only used through one
  deriving Repr, DecidableEq

def rowOK (p : Policy) (r : Row) : Bool :=
  match p with
  | .lockedBy m => r.ctx == 0 || r.locks.contains m
  | .writerLocked m owner =>
      r.ctx == 0 || (if r.write then r.ctx == owner && r.locks.contains m else r.ctx == owner || r.locks.contains m)
  | .immutable => r.ctx == 0 || r.ctx == 1 || !r.write
  | .ownedBy c => r.ctx == 0 || r.ctx == c
  | .sync => true

def tableOK (policy : String → Policy) (rows : List Row) : Bool := rows.all fun r => rowOK (policy r.field) r

/-- two accesses that could race: same field, at least one write, both after publication -/
def conflicting (a b : Row) : Bool := a.field == b.field && (a.write || b.write) && a.ctx != 0 && b.ctx != 0

/-- what makes a conflicting pair harmless -/
def justified (policy : String → Policy) (a b : Row) : Bool :=
  match policy a.field with
  | .sync => true
  | .lockedBy m => a.locks.contains m && b.locks.contains m
  | .writerLocked m owner => (a.locks.contains m && b.locks.contains m) || (a.ctx == owner && b.ctx == owner)
  | .immutable => a.ctx == 1 || b.ctx == 1      -- a set-up write, ordered before Run by the property's premise
  | .ownedBy c => a.ctx == c && b.ctx == c

/-- if every row complies with its field's policy, every conflicting pair is justified -/
theorem justified_of_tableOK (policy : String → Policy) (rows : List Row) (h : tableOK policy rows = true)
    (a b : Row) (ha : a ∈ rows) (hb : b ∈ rows) (hc : conflicting a b = true) : justified policy a b = true := by
  have ra := List.all_eq_true.mp h a ha
  have rb := List.all_eq_true.mp h b hb
  simp only [conflicting, Bool.and_eq_true, bne_iff_ne, ne_eq, beq_iff_eq, Bool.or_eq_true] at hc
  obtain ⟨⟨⟨hf, hw⟩, hane⟩, hbne⟩ := hc
  rw [← hf] at rb
  unfold justified
  -- from here on only the policy of the common field matters
  generalize policy a.field = p at ra rb
  have ha0 : (a.ctx == 0) = false := by simpa using hane
  have hb0 : (b.ctx == 0) = false := by simpa using hbne
  cases p <;> simp only [rowOK, ha0, hb0, Bool.false_or] at ra rb ⊢
  case lockedBy m => rw [ra, rb]; rfl
  case ownedBy c => rw [ra, rb]; rfl
  case immutable =>
    -- the row that writes is a set-up write
    rcases hw with hw | hw
    · rw [hw] at ra; rw [show (a.ctx == 1) = true by simpa using ra]; rfl
    · rw [hw] at rb; rw [show (b.ctx == 1) = true by simpa using rb, Bool.or_true]
  case writerLocked m owner =>
    -- a row that writes is in the owner's context and under `m`; one that reads is one or the other
    rcases hw with hw | hw
    · rw [if_pos hw, Bool.and_eq_true] at ra
      rw [ra.1, ra.2, Bool.true_and, Bool.true_and, Bool.or_comm]
      split at rb
      · rw [(Bool.and_eq_true_iff.mp rb).1]; rfl
      · exact rb
    · rw [if_pos hw, Bool.and_eq_true] at rb
      rw [rb.1, rb.2, Bool.and_true, Bool.and_true, Bool.or_comm]
      split at ra
      · rw [(Bool.and_eq_true_iff.mp ra).1]; rfl
      · exact ra

end Access
