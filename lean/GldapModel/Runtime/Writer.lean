import GldapModel.Ber.RoundTrip
/-! # Runtime.Writer - N handlers writing responses on one connection

`(*ResponseWriter).Write` as a list of micro-operations (`Generated.writeSeq`, extracted from
response.go) executed by any number of writers over a shared mutex and a shared,
NON-thread-safe buffered writer: `bufio.Write` and `Flush` are modelled in two halves (read
the buffer state, then update it; a write may spill any prefix to the wire), so that a
missing or misplaced lock tears, merges, loses or duplicates bytes in the model as in Go. -/
namespace Writer
open Ber

inductive WOp where | lock | write | flush | unlock
  deriving Repr, DecidableEq

structure WS where
  mutex : Option Nat
  buf : Bytes
  wire : Bytes
  pc : Nat → Nat
  half : Nat → Bool
  seen : Nat → Bytes
  todo : Nat → List Bytes
  done : List (Nat × Bytes)

def upd {α} (f : Nat → α) (w : Nat) (v : α) : Nat → α := fun x => if x = w then v else f x
@[simp] theorem upd_same {α} (f : Nat → α) (w : Nat) (v : α) : upd f w v w = v := by simp [upd]
@[simp] theorem upd_other {α} (f : Nat → α) (w x : Nat) (v : α) (h : x ≠ w) : upd f w v x = f x := by simp [upd, h]

/-- finish the micro-op at index pc: advance, or complete the call if it was the last one -/
def advance (seq : List WOp) (s : WS) (w : Nat) (f : Bytes) (rest : List Bytes) : WS :=
  if s.pc w + 1 = seq.length then
    { s with pc := upd s.pc w 0, todo := upd s.todo w rest, done := s.done ++ [(w, f)] }
  else { s with pc := upd s.pc w (s.pc w + 1) }

def step (seq : List WOp) (s : WS) (w : Nat) (k : Nat) : Option WS :=
  match s.todo w with
  | [] => none
  | f :: rest =>
    match seq[s.pc w]? with
    | none => none
    | some .lock => if s.mutex = none then some (advance seq { s with mutex := some w } w f rest) else none
    | some .unlock => some (advance seq { s with mutex := none } w f rest)
    | some .write =>
      if s.half w = false then some { s with seen := upd s.seen w s.buf, half := upd s.half w true }
      else
        let all := s.seen w ++ f
        some (advance seq { s with wire := s.wire ++ all.take k, buf := all.drop k, half := upd s.half w false } w f rest)
    | some .flush =>
      if s.half w = false then some { s with wire := s.wire ++ s.buf, half := upd s.half w true }
      else some (advance seq { s with buf := [], half := upd s.half w false } w f rest)

def run (seq : List WOp) : WS → List (Nat × Nat) → Option WS
  | s, [] => some s
  | s, (w, k) :: ls => (step seq s w k).bind (run seq · ls)

def init (frames : Nat → List Bytes) : WS :=
  { mutex := none, buf := [], wire := [], pc := fun _ => 0, half := fun _ => false,
    seen := fun _ => [], todo := frames, done := [] }

def good : List WOp := [.lock, .write, .flush, .unlock]

def flat (d : List (Nat × Bytes)) : Bytes := (d.map (·.2)).flatten

end Writer
