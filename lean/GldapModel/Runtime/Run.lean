/-! What the runtime models have in common: `run` folds a partial `step` over a list of events and
    refuses the whole list at the first refused event. Each model states `isRun` once (both fields
    hold by `rfl`) and takes its run-level lemmas from here. -/
namespace Run
variable {σ ε : Type} {step : σ → ε → Option σ} {run : σ → List ε → Option σ}

structure IsRun (step : σ → ε → Option σ) (run : σ → List ε → Option σ) : Prop where
  nil : ∀ s, run s [] = some s
  cons : ∀ s e es, run s (e :: es) = (step s e).bind (run · es)

namespace IsRun

/-- induction over an accepted run, first event first; `P s es s'` may speak of the events -/
theorem induction (R : IsRun step run) {P : σ → List ε → σ → Prop} (nil : ∀ s, P s [] s)
    (cons : ∀ {s e m es s'}, step s e = some m → P m es s' → P s (e :: es) s')
    {s : σ} {es : List ε} {s' : σ} (h : run s es = some s') : P s es s' := by
  induction es generalizing s with
  | nil => cases (R.nil s).symm.trans h; exact nil _
  | cons e es ih =>
    obtain ⟨m, hs, hr⟩ := Option.bind_eq_some_iff.mp ((R.cons s e es).symm.trans h)
    exact cons hs (ih hr)

theorem invariant (R : IsRun step run) {I : σ → Prop} (hstep : ∀ {s e s'}, I s → step s e = some s' → I s')
    {s : σ} {es : List ε} {s' : σ} (h : run s es = some s') : I s → I s' :=
  R.induction (P := fun s _ s' => I s → I s') (fun _ => id) (fun hs ih hi => ih (hstep hi hs)) h

theorem append (R : IsRun step run) (s : σ) (a b : List ε) : run s (a ++ b) = (run s a).bind (run · b) := by
  induction a generalizing s with
  | nil => rw [R.nil]; rfl
  | cons e a ih => rw [List.cons_append, R.cons, R.cons, Option.bind_assoc]; congr; funext m; exact ih m

/-- an accepted run through `pre ++ [e] ++ post` passes the states before and after `e` -/
theorem split (R : IsRun step run) {s s' : σ} {pre post : List ε} {e : ε} (h : run s (pre ++ [e] ++ post) = some s') :
    ∃ m m', run s pre = some m ∧ step m e = some m' ∧ run m' post = some s' := by
  rw [List.append_assoc, R.append, Option.bind_eq_some_iff] at h
  obtain ⟨m, h1, h2⟩ := h
  rw [List.singleton_append, R.cons, Option.bind_eq_some_iff] at h2
  obtain ⟨m', h2, h3⟩ := h2
  exact ⟨m, m', h1, h2, h3⟩

end IsRun
end Run
