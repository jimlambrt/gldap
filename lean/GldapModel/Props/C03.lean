import GldapModel.Gldap.Mux
import GldapModel.Generated.Facts
/-! # C03 - each request is served by exactly one handler: the first matching route -/
namespace Gldap
open Ber Gldap.Generated

variable {H : Type}

/-- the response type belonging to each request operation (RFC 4511 section 4) -/
def responseTagOf : Msg → Nat
  | .bind .. => 1 | .search .. => 5 | .modify .. => 7 | .add .. => 9 | .delete .. => 11
  | .extended .. => 24 | .unbind .. => 24

/-- the route loop is `find?`: the first route, in registration order, whose criteria match -/
theorem serveLoop_eq_find (rs : List (RouteSpec × H)) (msg : Msg) :
    serveLoop rs msg = (rs.find? fun p => matchesRoute p.1 msg).map fun p => [.invoke p.2] := by
  induction rs with
  | nil => rfl
  | cons r rs ih => rw [serveLoop, List.find?_cons]; cases matchesRoute r.1 msg <;> simp [ih]

/-- exactly one effect per request: never handled twice, never silently dropped -/
theorem C03_exactly_one (table) (m : Mux H) (msg : Msg) : (serve table m msg).length = 1 := by
  rw [serve, serveLoop_eq_find]
  cases m.routes.find? _ <;> cases m.dflt <;> rfl

/-- a handler is invoked iff it is the first matching route in registration order, or no route
    matches and it is the default route -/
theorem C03_first_match (table) (m : Mux H) (msg : Msg) (es : List (Effect H)) (hs : serve table m msg = es) :
    (∃ i, ∃ hi : i < m.routes.length, es = [.invoke (m.routes[i]).2] ∧ matchesRoute (m.routes[i]).1 msg = true ∧
        ∀ j, (hj : j < i) → matchesRoute (m.routes[j]'(by omega)).1 msg = false)
    ∨ ((∀ p ∈ m.routes, matchesRoute p.1 msg = false) ∧ ∃ h, m.dflt = some h ∧ es = [.invoke h])
    ∨ ((∀ p ∈ m.routes, matchesRoute p.1 msg = false) ∧ m.dflt = none ∧
        es = [.refuse msg.id (refusalTag table msg) ResultUnwillingToPerform]) := by
  subst hs
  rw [serve, serveLoop_eq_find]
  cases hf : m.routes.find? fun p => matchesRoute p.1 msg with
  | some p =>
    obtain ⟨hm, i, hi, rfl, hlt⟩ := List.find?_eq_some_iff_getElem.mp hf
    exact .inl ⟨i, hi, rfl, hm, fun j hj => by simpa using hlt j hj⟩
  | none =>
    have hn p (hp : p ∈ m.routes) := Bool.eq_false_iff.mpr (List.find?_eq_none.mp hf p hp)
    cases hd : m.dflt with
    | some h => exact .inr (.inl ⟨hn, h, rfl, rfl⟩)
    | none => exact .inr (.inr ⟨hn, rfl, rfl⟩)

/-- a later matching route is never used -/
theorem C03_not_later (table) (m : Mux H) (msg : Msg) (i j : Nat) (hi : i < m.routes.length) (hj : j < m.routes.length)
    (hij : i < j) (hmi : matchesRoute (m.routes[i]).1 msg = true)
    (hdist : (m.routes[j]).2 ≠ (m.routes[i]).2 → True) :
    ∃ k, ∃ hk : k < m.routes.length, k ≤ i ∧ serve table m msg = [.invoke (m.routes[k]).2] := by
  rcases C03_first_match table m msg _ rfl with ⟨k, hk, he, -, hlt⟩ | ⟨hn, -⟩ | ⟨hn, -⟩
  · -- the first matching route is not after `i`, which matches
    exact ⟨k, hk, Nat.le_of_not_lt fun hik => absurd hmi (Bool.eq_false_iff.mp (hlt i hik)), he⟩
  all_goals exact absurd hmi (Bool.eq_false_iff.mp (hn _ (List.getElem_mem hi)))

/-- sample message of each kind: `refusalTag` only looks at the route operation -/
def sampleMsgs : List Msg :=
  [.bind 0 [] [] [], .search 0 [] 0 0 0 0 false [] [] [], .extended 0 [], .modify 0 [] [] [],
   .add 0 [] [] [], .delete 0 [] [], .unbind 0]

/-- decidable check of an extracted refusal table: every operation gets its own response type -/
def tableOK (table : Option (List (Bytes × Nat))) : Bool :=
  sampleMsgs.all fun m => refusalTag table m == responseTagOf m

theorem refusalTag_of_tableOK (table) (h : tableOK table = true) (msg : Msg) :
    refusalTag table msg = responseTagOf msg := by
  simp only [tableOK, sampleMsgs, List.all_cons, List.all_nil, Bool.and_true, Bool.and_eq_true, beq_iff_eq] at h
  obtain ⟨h1, h2, h3, h4, h5, h6, h7⟩ := h
  -- both sides only look at the constructor of the message
  cases msg
  · exact h1
  · exact h2
  · exact h3
  · exact h4
  · exact h5
  · exact h6
  · exact h7

/-- the refusal carries the request's message id, unwillingToPerform, and - when the source's
    per-operation table is right - the response type belonging to the request's operation -/
theorem C03_refusal (table) (htable : tableOK table = true)
    (m : Mux H) (msg : Msg) (h1 : ∀ p ∈ m.routes, matchesRoute p.1 msg = false) (h2 : m.dflt = none) :
    serve table m msg = [.refuse msg.id (responseTagOf msg) 53] := by
  rw [serve, serveLoop_eq_find, List.find?_eq_none.mpr fun p hp => Bool.eq_false_iff.mp (h1 p hp), h2,
    refusalTag_of_tableOK table htable msg]
  rfl

/-- registration: routes keep their order, the last default / unbind registration wins -/
theorem C03_register_order (rs : List (Reg H)) (m : Mux H) :
    (rs.foldl Mux.register m).routes =
      m.routes ++ rs.filterMap (fun r => match r with | .route s h => some (s, h) | _ => none) := by
  induction rs generalizing m with
  | nil => exact (List.append_nil _).symm
  | cons r rs ih =>
    rw [List.foldl_cons, ih]
    cases r <;> simp only [Mux.register, List.filterMap_cons, List.append_assoc, List.singleton_append]

theorem C03_last_default (rs : List (Reg H)) (h : H) : (Mux.build (rs ++ [.dflt h])).dflt = some h := by
  simp [Mux.build, List.foldl_append, Mux.register]

/-- the pinned tree's answer: always an ExtendedResponse, also to a Search -/
theorem C03_refusal_counterexample :
    serve (H := Nat) none Mux.empty (.search 7 [] 0 0 0 0 false [] [] []) = [.refuse 7 24 53] := by decide

theorem C03_current (m : Mux H) (msg : Msg) (h1 : ∀ p ∈ m.routes, matchesRoute p.1 msg = false) (h2 : m.dflt = none) :
    serve Generated.refusalTable m msg = [.refuse msg.id (responseTagOf msg) 53] :=
  C03_refusal Generated.refusalTable (by decide) m msg h1 h2

theorem C03_pinned_table_bad : tableOK none = false := by decide

/-- non-vacuity: a table where the second of two matching search routes is never used -/
example : serve (H := Nat) none
    (Mux.build [.route (.search [100, 99] [] 0) 1, .route (.search [] [] 2) 2, .dflt 9])
    (.search 1 [68, 67] 2 0 0 0 false [] [] []) = [.invoke 1] := by decide

end Gldap
