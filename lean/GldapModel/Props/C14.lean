import GldapModel.Proofs.ControlRT
import GldapModel.Proofs.Decimal
import GldapModel.Spec.ClientView
import GldapModel.Generated.Facts
/-! # C14 - controls survive encode and decode unchanged, in both directions

`encodeControl` models the `Encode()` method of each exported control type;
`decodeControl` is gldap's request decoder; `Spec.readCtl` is an independent strict client.
Also: the Behera constructor under Go's `uint -> int -> int8` conversions. -/
namespace Gldap
open Ber Spec Gldap.Generated

/-- the control values the theorems cover (the property's quantifier) -/
def Control.WF : Control → Prop
  | .str oid _ _ => oid ∉ typedOids
  | .manageDsaIT _ => True
  | .paging size cookie => size < 2^32 ∧ cookie.length < 2^31 - 64
  | .behera e g er =>
      (-1 ≤ e ∧ e < 2^63) ∧ (-1 ≤ g ∧ g < 2^63) ∧ (-1 ≤ er ∧ er ≤ 8) ∧
      ((e = -1 ∧ g = -1) ∨ (e = -1 ∧ er = -1) ∨ (g = -1 ∧ er = -1))
  | .vchuMustChange => True
  | .vchuWarning e => Int64 e
  | .msNotification => True
  | .msShowDeleted => True
  | .msServerLinkTTL => True

/-- a well-formed Behera control has one of four shapes: grace, expiry, error, or nothing set -/
theorem Control.WF.behera_cases {e g er : Int} (hw : (Control.behera e g er).WF) :
    (0 ≤ g ∧ g < 2^63 ∧ e = -1 ∧ er = -1) ∨ (g = -1 ∧ 0 ≤ e ∧ e < 2^63 ∧ er = -1) ∨
    (g = -1 ∧ e = -1 ∧ 0 ≤ er ∧ er ≤ 8) ∨ (g = -1 ∧ e = -1 ∧ er = -1) := by
  obtain ⟨he, hg, her, ⟨rfl, rfl⟩ | ⟨rfl, rfl⟩ | ⟨rfl, rfl⟩⟩ := hw
  · by_cases h : 0 ≤ er
    · exact .inr (.inr (.inl ⟨rfl, rfl, h, her.2⟩))
    · exact .inr (.inr (.inr ⟨rfl, rfl, by omega⟩))
  · by_cases h : 0 ≤ g
    · exact .inl ⟨h, hg.2, rfl, rfl⟩
    · exact .inr (.inr (.inr ⟨by omega, rfl, rfl⟩))
  · by_cases h : 0 ≤ e
    · exact .inr (.inl ⟨rfl, h, he.2, rfl⟩)
    · exact .inr (.inr (.inr ⟨rfl, by omega, rfl⟩))

theorem encodeInteger_small (e : Int) (h : 0 ≤ e ∧ e ≤ 8) : encodeInteger e = [e.toNat.toUInt8] := by
  rw [encodeInteger_byte e (by omega), byteOf, Int.emod_eq_of_lt h.1 (by omega)]

/-- what a client must learn from a gldap control value -/
def viewOf : Control → CView
  | .str oid crit v => .generic oid crit v
  | .manageDsaIT crit => .manageDsaIT crit
  | .paging s c => .paging s c
  | .behera e g er =>
      if g ≥ 0 then .behera none (some g) none
      else if e ≥ 0 then .behera (some e) none none
      else if er ≥ 0 then .behera none none (some er.toNat)
      else .behera none none none
  | .vchuMustChange => .vchuMustChange
  | .vchuWarning e => .vchuWarning e
  | .msNotification => .msNotification
  | .msShowDeleted => .msShowDeleted
  | .msServerLinkTTL => .msServerLinkTTL

/-- what a client must learn from a control as the sender meant it (the client-side counterpart of `expectedCtl`) -/
def _root_.Spec.CCtl.view : CCtl → CView
  | .generic oid crit _ v => .generic oid crit v
  | .manageDsaIT crit _ => .manageDsaIT crit
  | .paging s c => .paging s c
  | .beheraEmpty => .behera none none none
  | .beheraExpire e => .behera (some e) none none
  | .beheraGrace g => .behera none (some g) none
  | .beheraError e => .behera none none (some e)
  | .vchuMustChange => .vchuMustChange
  | .vchuWarning ds => .vchuWarning (decimalOf ds)
  | .msNotification => .msNotification
  | .msShowDeleted => .msShowDeleted
  | .msServerLinkTTL => .msServerLinkTTL

/-- gldap's `Encode()` emits exactly the RFC encoding (with asn1-ber's 0x01 for TRUE) of a control that a client
    could have meant: one within the quantifier of `decodeControl_encodeCtl` / `readCtl_encodeCtl`, with the
    same meaning for gldap's decoder and for a client. This is where the control types meet the RFC side; the
    two directions below are then statements about the RFC encoding alone. -/
theorem encodeControl_spec (c : Control) (hw : c.WF) :
    ∃ cc : CCtl, cc.WF ∧ encodeControl c = encodeCtl 1 cc ∧ expectedCtl decimalOf cc = c ∧ cc.view = viewOf c := by
  cases c with
  | str oid crit v => exact ⟨.generic oid crit false v, hw, by cases crit <;> cases v <;> rfl, rfl, rfl⟩
  | manageDsaIT crit => exact ⟨.manageDsaIT crit false, trivial, by cases crit <;> rfl, rfl, rfl⟩
  | paging s ck => exact ⟨.paging s ck, hw, rfl, rfl, rfl⟩
  | behera e g er =>
    rcases hw.behera_cases with ⟨h0, h1, rfl, rfl⟩ | ⟨rfl, h0, h1, rfl⟩ | ⟨rfl, rfl, h0, h8⟩ | ⟨rfl, rfl, rfl⟩
    · exact ⟨.beheraGrace g, ⟨h0, h1⟩, by simp [encodeControl, h0]; rfl, rfl, by simp [viewOf, h0, CCtl.view]⟩
    · exact ⟨.beheraExpire e, ⟨h0, h1⟩, by simp [encodeControl, h0]; rfl, rfl, by simp [viewOf, h0, CCtl.view]⟩
    · exact ⟨.beheraError er.toNat, by simp only [CCtl.WF]; omega,
        by simp [encodeControl, h0, encodeInteger_small er ⟨h0, h8⟩]; rfl,
        by simp [expectedCtl, Int.toNat_of_nonneg h0], by simp [viewOf, h0, CCtl.view]⟩
    · exact ⟨.beheraEmpty, trivial, rfl, rfl, rfl⟩
  | vchuMustChange => exact ⟨.vchuMustChange, trivial, rfl, rfl, rfl⟩
  | vchuWarning e =>
    have hd : decimalOf (formatInt e) = e := by simp [decimalOf, parseDecimal_formatInt e hw]
    exact ⟨.vchuWarning (formatInt e), ⟨e, parseDecimal_formatInt e hw⟩, rfl, by simp [expectedCtl, hd],
      by simp [CCtl.view, viewOf, hd]⟩
  | msNotification => exact ⟨.msNotification, trivial, rfl, rfl, rfl⟩
  | msShowDeleted => exact ⟨.msShowDeleted, trivial, rfl, rfl, rfl⟩
  | msServerLinkTTL => exact ⟨.msServerLinkTTL, trivial, rfl, rfl, rfl⟩

/-- request direction: gldap's decoder recovers every encoded control unchanged -/
theorem C14_request (env : Env) (g : Guards) (c : Control) (hw : c.WF) :
    decodeControl env g (encodeControl c) = .ok c := by
  obtain ⟨cc, hcc, he, hx, -⟩ := encodeControl_spec c hw
  rw [he, decodeControl_encodeCtl env g 1 (by decide) cc hcc, hx]

/-- any number and order of controls on one message -/
theorem C14_request_list (env : Env) (g : Guards) (cs : List Control) (hw : ∀ c ∈ cs, c.WF) :
    decodeControls env g (encodeControls cs).kids = .ok cs := by
  simp only [encodeControls, cons_kids]
  induction cs with
  | nil => rfl
  | cons c cs ih =>
    simp [decodeControls, C14_request env g c (hw c (by simp)), ih fun c hc => hw c (by simp [hc])]

/-- ... also from the bytes on the wire -/
theorem C14_request_wire (env : Env) (g : Guards) (c : Control) (hw : c.WF) (rest : Bytes)
    (hber : (encodeControl c).WF env.ext) :
    (readPacket env.ext (ser (encodeControl c) ++ rest)).map (fun p => decodeControl env g p.1) = some (.ok c) := by
  simp [readPacket_ser env.ext _ rest hber, C14_request env g c hw]

theorem C14_current (env : Env) (cs : List Control) (hw : ∀ c ∈ cs, c.WF) :
    decodeControls env Generated.guards (encodeControls cs).kids = .ok cs :=
  C14_request_list env Generated.guards cs hw

/-! ### response direction: an independent client -/

theorem readRaw1 (oid : Bytes) : readRaw (Spec.seq [Spec.octet oid]) = some ⟨oid, false, none⟩ := rfl
theorem readRaw2b (oid : Bytes) : readRaw (Spec.seq [Spec.octet oid, Spec.bool 1 true]) = some ⟨oid, true, none⟩ := rfl
theorem readRaw2v (oid v : Bytes) : readRaw (Spec.seq [Spec.octet oid, Spec.octet v]) = some ⟨oid, false, some v⟩ := rfl
theorem readRaw3 (oid v : Bytes) :
    readRaw (Spec.seq [Spec.octet oid, Spec.bool 1 true, Spec.octet v]) = some ⟨oid, true, some v⟩ := rfl

/-! the client's dispatch on the OID, by evaluation (as `dispatch_*` for gldap's) -/

theorem readCtl_paging (ext : Nat → Bytes → Bool) (v : Bytes) :
    readCtl ext (Spec.seq [Spec.octet oidPaging, Spec.octet v]) =
      match readPacket ext v with
      | some (.cons 0 16 [.prim 0 2 sz, .prim 0 4 ck], []) => (parseInt64 sz).map fun s => .paging s ck
      | _ => none := rfl

theorem readCtl_behera (ext : Nat → Bytes → Bool) (v : Bytes) :
    readCtl ext (Spec.seq [Spec.octet oidBehera, Spec.octet v]) =
      match readPacket ext v with
      | some (.cons 0 16 kids, []) => readBehera kids
      | _ => none := rfl

theorem readCtl_vchuWarning (ext : Nat → Bytes → Bool) (ds : Bytes) :
    readCtl ext (Spec.seq [Spec.octet oidVChuWarning, Spec.octet ds]) = (readDecimal ds).map .vchuWarning := rfl

/-- the header of RFC 4511 4.1.11 as `encodeCtl` writes it: criticality only when TRUE or explicit, value only
    when not empty -/
theorem readRaw_header {tt : UInt8} (htt : tt ≠ 0) (oid : Bytes) (crit ex : Bool) (v : Bytes) :
    readRaw (Spec.seq ([Spec.octet oid] ++ (if crit || ex then [Spec.bool tt crit] else []) ++
      (if v.isEmpty then [] else [Spec.octet v]))) = some ⟨oid, crit, if v.isEmpty then none else some v⟩ := by
  -- by evaluation, except that TRUE is read back as `tt != 0`
  refine (?_ : _ = some ⟨oid, crit && (tt != 0), if v.isEmpty then none else some v⟩).trans ?_
  · cases crit <;> cases ex <;> cases v <;> rfl
  · rw [bne_iff_ne.mpr htt, Bool.and_true]

/-- the strict client inverts the RFC encoder, whatever octet the sender uses for TRUE -/
theorem readCtl_encodeCtl (ext : Nat → Bytes → Bool) (tt : UInt8) (htt : tt ≠ 0) (c : CCtl) (hw : c.WF) :
    readCtl ext (encodeCtl tt c) = some c.view := by
  cases c with
  | generic oid crit ex v =>
    simp only [CCtl.WF, typedOids, List.mem_cons, List.not_mem_nil, or_false, not_or] at hw
    simp only [encodeCtl, readCtl, readRaw_header htt, hw, if_false]
    cases v <;> rfl
  | manageDsaIT crit ex =>
    have hr : readRaw (encodeCtl tt (.manageDsaIT crit ex)) = some ⟨oidManageDsaIT, crit && (tt != 0), none⟩ := by
      cases crit <;> cases ex <;> rfl
    simp only [readCtl, hr, if_true, bne_iff_ne.mpr htt, Bool.and_true]
    rfl
  | paging s ck =>
    have hi : Int64 (s : Int) := by have := hw.1; constructor <;> omega
    rw [encodeCtl, readCtl_paging, readPacket_ser_nil ext _ (wf_pagingValue ext s ck hw.1 hw.2)]
    simp [Spec.seq, Spec.int, Spec.octet, parseInt64_encodeInteger _ hi, CCtl.view]
  | beheraEmpty => rfl
  | beheraExpire e =>
    have hi : Int64 e := ⟨Int.le_trans (by decide) hw.1, hw.2⟩
    rw [encodeCtl, readCtl_behera,
      readPacket_ser_nil ext _ (wf_beheraValue ext 0 _ (by omega) (encodeInteger_length_le e hi)).1]
    simp [Spec.seq, readBehera, parseInt64_encodeInteger _ hi, CCtl.view]
  | beheraGrace g =>
    have hi : Int64 g := ⟨Int.le_trans (by decide) hw.1, hw.2⟩
    rw [encodeCtl, readCtl_behera,
      readPacket_ser_nil ext _ (wf_beheraValue ext 1 _ (by omega) (encodeInteger_length_le g hi)).1]
    simp [Spec.seq, readBehera, parseInt64_encodeInteger _ hi, CCtl.view]
  | beheraError e =>
    have hb : e.toUInt8.toNat = e := toUInt8_toNat (Nat.lt_of_le_of_lt hw (by decide))
    rw [encodeCtl, readCtl_behera,
      readPacket_ser_nil ext _ (wf_beheraValue ext 1 [e.toUInt8] (by omega) (Nat.le_of_ble_eq_true rfl)).2]
    simp [Spec.seq, readBehera, hb, CCtl.view]
  | vchuMustChange => rfl
  | vchuWarning ds =>
    obtain ⟨e, he⟩ := hw
    simp [encodeCtl, readCtl_vchuWarning, readDecimal, he, CCtl.view, decimalOf]
  | msNotification => rfl
  | msShowDeleted => rfl
  | msServerLinkTTL => rfl

/-- response direction: an independent strict client recovers type, criticality, page size,
    cookie, expiry, grace, error and value from what gldap's `Encode()` puts on the wire -/
theorem C14_client (ext : Nat → Bytes → Bool) (c : Control) (hw : c.WF) :
    readCtl ext (encodeControl c) = some (viewOf c) := by
  obtain ⟨cc, hcc, he, -, hv⟩ := encodeControl_spec c hw
  rw [he, readCtl_encodeCtl ext 1 (by decide) cc hcc, hv]

theorem intToInt8_small (c : Int) (h : -1 ≤ c ∧ c ≤ 8) : intToInt8 c = c := by
  unfold intToInt8; simp only; split <;> omega

theorem uintToInt_small (u : Nat) (hu : u < 2^64) (h : -1 ≤ uintToInt u ∧ uintToInt u ≤ 8) :
    u ≤ 8 ∨ u = 2^64 - 1 := by
  unfold uintToInt at h; split at h <;> omega

/-- With the range check on both sides (`errRange`), for ALL `uint` arguments the constructor
    never yields a control with more than one of grace / expire / error set, and rejects
    error codes above 8 -/
theorem C14_behera_ctor (grace expire error : Option Nat) (hc : ∀ u, error = some u → u < 2^64)
    (ctl : Control) (h : newBehera true grace expire error = .ok ctl) :
    ∃ e g er, ctl = .behera e g er ∧ -1 ≤ er ∧ er ≤ 8 ∧
      ((e = -1 ∧ g = -1) ∨ (e = -1 ∧ er = -1) ∨ (g = -1 ∧ er = -1)) ∧
      (∀ u, error = some u → u ≤ 8 ∨ u = 2^64 - 1) := by
  unfold newBehera at h
  generalize hcv : optInt error = cv at h
  revert h
  fun_cases beheraCore true (optInt grace) (optInt expire) cv
  -- the last branch returns the control: none of the four refusals applied
  case case5 c1 c2 c3 c4 =>
    rintro ⟨rfl⟩
    have hr : -1 ≤ cv ∧ cv ≤ 8 := by simp at c4; omega
    refine ⟨_, _, _, rfl, ?_⟩
    rw [intToInt8_small cv hr]
    refine ⟨hr.1, hr.2, ?_, fun u hu => ?_⟩
    · by_cases hg : optInt grace = -1
      · by_cases he : optInt expire = -1
        · exact .inl ⟨he, hg⟩
        · exact .inr (.inr ⟨hg, Decidable.byContradiction fun h => c3 ⟨he, h⟩⟩)
      · exact .inr (.inl ⟨Decidable.byContradiction fun h => c1 ⟨hg, h⟩, Decidable.byContradiction fun h => c2 ⟨hg, h⟩⟩)
    · subst hu hcv
      exact uintToInt_small u (hc u rfl) hr
  all_goals (intro h; cases h)

/-- on the pinned tree (no lower bound) the overflowing error code is accepted as error 56 -/
theorem C14_behera_counterexample :
    newBehera false none none (some (2^63 + 56)) = .ok (.behera (-1) (-1) 56) := by decide

theorem C14_behera_current (grace expire error : Option Nat)
    (hg : ∀ u, grace = some u → u < 2^64) (he : ∀ u, expire = some u → u < 2^64) (hc : ∀ u, error = some u → u < 2^64)
    (ctl : Control) (h : newBehera Generated.beheraErrRange grace expire error = .ok ctl) :
    ∃ e g er, ctl = .behera e g er ∧ -1 ≤ er ∧ er ≤ 8 ∧
      ((e = -1 ∧ g = -1) ∨ (e = -1 ∧ er = -1) ∨ (g = -1 ∧ er = -1)) ∧
      (∀ u, error = some u → u ≤ 8 ∨ u = 2^64 - 1) := by
  have : Generated.beheraErrRange = true := by decide
  rw [this] at h
  exact C14_behera_ctor grace expire error hc ctl h

/-- non-vacuity -/
example : (Control.paging 1000 [1, 2, 3]).WF ∧ (Control.behera (-1) 3 (-1)).WF ∧ (Control.vchuWarning (-7)).WF := by
  refine ⟨⟨by decide, by decide⟩, ?_, ?_⟩ <;> simp [Control.WF, Int64] <;> omega

end Gldap
