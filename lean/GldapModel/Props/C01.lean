import GldapModel.Proofs.ControlRT
import GldapModel.Generated.Facts
import GldapModel.Props.C02
/-! # C01 - a decoded request carries exactly what the client sent

`Spec.clientEncode` is the RFC 4511 encoder (independent of gldap's constants);
`newMessage` / `serveFrame` are gldap's decoder model with constants and guard flags
regenerated from the source. The theorems hold for every guard setting `g` and every
behaviour of the third-party validators; `DecompileFilter` is the parameter `env.decompile`. -/
namespace Gldap
open Ber Spec Gldap.Generated

/-- the client's request is within the property's quantifier -/
def _root_.Spec.CReq.WF : CReq → Prop
  | .bind id _ _ ctls => Int64 id ∧ ∀ c ∈ ctls, c.WF
  | .search id _ scope deref size time _ _ _ ctls =>
      Int64 id ∧ Int64 scope ∧ Int64 deref ∧ Int64 size ∧ Int64 time ∧ ∀ c ∈ ctls, c.WF
  | .extended id _ => Int64 id
  | .modify id _ chs ctls => Int64 id ∧ (∀ c ∈ chs, Int64 c.op) ∧ ∀ c ∈ ctls, c.WF
  | .add id _ _ ctls => Int64 id ∧ ∀ c ∈ ctls, c.WF
  | .delete id _ ctls => Int64 id ∧ ∀ c ∈ ctls, c.WF
  | .unbind id => Int64 id

def expectedChange (c : CChange) : Change := ⟨c.op, c.type, c.vals.map Spec.wrap⟩
def expectedAttr (a : CAttr) : Attr := ⟨a.type, a.vals⟩

/-- what the handler must receive. Modify values arrive one element per client value in the
    BER-wrapped form (`Spec.wrap`) that `ConvertString` unwraps (see C16). -/
def expected (decompiled : Bytes) : CReq → Msg
  | .bind id dn pw ctls => .bind id dn pw (ctls.map (expectedCtl decimalOf))
  | .search id base scope deref size time ty _ attrs ctls =>
      .search id base scope deref size time ty decompiled attrs (ctls.map (expectedCtl decimalOf))
  | .extended id name => .extended id name
  | .modify id dn chs ctls => .modify id dn (chs.map expectedChange) (ctls.map (expectedCtl decimalOf))
  | .add id dn attrs ctls => .add id dn (attrs.map expectedAttr) (ctls.map (expectedCtl decimalOf))
  | .delete id dn ctls => .delete id dn (ctls.map (expectedCtl decimalOf))
  | .unbind id => .unbind id

def Msg.appTag : Msg → Nat
  | .bind .. => 0 | .unbind .. => 2 | .search .. => 3 | .modify .. => 6 | .add .. => 8
  | .delete .. => 10 | .extended .. => 23

def ReqType.appTag : ReqType → Nat
  | .bind => 0 | .unbind => 2 | .search => 3 | .modify => 6 | .add => 8 | .delete => 10 | .extended => 23

/-! ### `requestPacket` and `requestType`, in both directions, over all trees -/

/-- `requestPacket` returns the protocolOp child when the checks of packet.go pass -/
theorem requestPacket_of (g : Guards) {p op : Node} (hb : basicValidation p = true) (hk : p.kids[1]? = some op)
    (hc : op.cls = 1) (hcons : op.constructed = true ∨ op.tag = 10 ∨ op.tag = 2)
    (hv : op.tag = 0 → ∃ v, op.kids[0]? = some v ∧ isKind v 0 false (some 2) = true ∧ valueOf v = .int 3) :
    requestPacket g p = .ok op := by
  have ha : assertApplicationRequest p = true := by
    simp only [assertApplicationRequest, assertApplicationRequest_childApplicationRequest, hk, hc,
      ApplicationDelRequest, ApplicationUnbindRequest]
    rcases hcons with h | h | h <;> simp [h]
  simp only [requestPacket, hb, ha, requestPacket_childApplicationRequest, hk, ApplicationBindRequest,
    requestPacket_childVersionNumber]
  by_cases h0 : op.tag = 0
  · obtain ⟨v, hv0, hvk, hv3⟩ := hv h0
    simp [h0, childIs, hv0, hvk, hv3]
  · simp [h0]

theorem requestPacket_ok (g : Guards) (p r : Node) (h : requestPacket g p = .ok r) :
    p.kids[1]? = some r ∧ (r.tag = 0 → ∃ v, r.kids[0]? = some v ∧ valueOf v = .int 3) := by
  revert h
  fun_cases requestPacket g p
  -- a Bind whose version child reads 3
  case case8 _ _ _ hk _ _ v hv ver hval h3 =>
    rintro ⟨rfl⟩
    exact ⟨hk, fun _ => ⟨v, hv, by simpa [hval] using h3⟩⟩
  -- any other operation
  case case10 _ _ _ hk ht =>
    rintro ⟨rfl⟩
    exact ⟨hk, fun h0 => absurd (by simp [h0, ApplicationBindRequest]) ht⟩
  -- the other branches do not return `ok`
  all_goals (intro h; simp at h)

theorem requestType_of {g : Guards} {p r : Node} (hr : requestPacket g p = .ok r) (ty : ReqType)
    (ht : r.tag = ty.appTag) : requestType g p = .ok ty := by
  simp only [requestType, hr, Outcome.ok_bind, ht]
  cases ty <;> rfl

theorem requestType_ok (g : Guards) (p : Node) (ty : ReqType) (h : requestType g p = .ok ty) :
    ∃ r, requestPacket g p = .ok r ∧ r.tag = ty.appTag := by
  obtain ⟨r, hr, h⟩ := Outcome.bind_eq_ok.1 h
  refine ⟨r, hr, ?_⟩
  -- the chain of seven tests returns `ty` only in the branch that tests for its tag
  simp only [Outcome.ite_eq_ok, Outcome.pure_eq, Outcome.ok.injEq, beq_iff_eq, reduceCtorEq, and_false, or_false] at h
  rcases h with ⟨ht, rfl⟩ | ⟨-, ⟨ht, rfl⟩ | ⟨-, ⟨ht, rfl⟩ | ⟨-, ⟨ht, rfl⟩ | ⟨-, ⟨ht, rfl⟩ | ⟨-, ⟨ht, rfl⟩ | ⟨-, ht, rfl⟩⟩⟩⟩⟩⟩
  all_goals exact ht

theorem envelope_kids (tt : UInt8) (id : Int) (op : Node) (ctls : List CCtl) :
    (envelope tt id op ctls).kids = [Spec.int 2 id, op] ++ (if ctls.isEmpty then [] else [.cons 2 0 (ctls.map (encodeCtl tt))]) := rfl

theorem envelope_basic (tt : UInt8) (id : Int) (op : Node) (ctls : List CCtl) : basicValidation (envelope tt id op ctls) = true := by
  simp only [basicValidation, envelope_kids]
  split <;> simp [envelope, basicValidation_childMinChildren]

theorem envelope_id (tt : UInt8) (id : Int) (op : Node) (ctls : List CCtl) (h : Int64 id) :
    requestMessageID (envelope tt id op ctls) = .ok id := by
  simp [requestMessageID, envelope_basic, envelope_kids, requestMessageID_childMessageID, valueOf_int (.inl rfl) h]

theorem envelope_controls (env : Env) (g : Guards) (tt : UInt8) (htt : tt ≠ 0) (id : Int) (op : Node) (ctls : List CCtl) (h : ∀ c ∈ ctls, c.WF) :
    controlsOf env g (envelope tt id op ctls) = .ok (ctls.map (expectedCtl decimalOf)) := by
  simp only [controlsOf, envelope_kids, controlPacket_childControl]
  cases ctls with
  | nil => simp
  | cons c cs => simpa using decodeControls_encode env g tt htt (c :: cs) h

/-- `requestPacket` on a client envelope whose operation is not a Bind -/
theorem envelope_request (g : Guards) (tt : UInt8) (id : Int) (op : Node) (ctls : List CCtl)
    (hc : op.cls = 1) (hk : op.constructed = true ∨ op.tag = 10 ∨ op.tag = 2) (ht : op.tag ≠ 0) :
    requestPacket g (envelope tt id op ctls) = .ok op :=
  requestPacket_of g (envelope_basic ..) rfl hc hk fun h => absurd h ht

theorem envelope_request_bind (g : Guards) (tt : UInt8) (id : Int) (dn pw : Bytes) (ctls : List CCtl) :
    requestPacket g (envelope tt id (.cons 1 0 [Spec.int 2 3, Spec.octet dn, .prim 2 0 pw]) ctls) =
      .ok (.cons 1 0 [Spec.int 2 3, Spec.octet dn, .prim 2 0 pw]) :=
  requestPacket_of g (envelope_basic ..) rfl rfl (.inl rfl) fun _ =>
    ⟨_, rfl, isKind_int 2 3, valueOf_int (.inl rfl) (by constructor <;> decide)⟩

/-! ### fields: each reader of `Packet.lean` on the node the RFC encoder writes at that position -/

theorem octetList_map (l : List Bytes) : octetList (l.map Spec.octet) = .ok l := by
  induction l with
  | nil => rfl
  | cons x xs ih => simp [octetList, ih]

section
variable {r : Node} {ks : List Node} (hk : r.kids = ks) {i : Nat}
include hk

theorem intChild_int {t : Nat} {v : Int} (hi : ks[i]? = some (Spec.int t v)) (ht : t = 2 ∨ t = 10) (hv : Int64 v) :
    intChild r i t = .ok v := by
  simp [intChild, childIs, hk, hi, valueOf_int ht hv]

theorem boolChild_bool {tt : UInt8} {b : Bool} (hi : ks[i]? = some (Spec.bool tt b)) (htt : tt ≠ 0) :
    boolChild r i = .ok b := by
  simp [boolChild, childIs, hk, hi, valueOf_bool tt htt]

theorem octetChild_octet {s : Bytes} (hi : ks[i]? = some (Spec.octet s)) : octetChild r i = .ok s := by
  simp [octetChild, childIs, hk, hi]
end

theorem decodeChange_encode (c : CChange) (h : Int64 c.op) : decodeChange (encodeChange c) = .ok (expectedChange c) := by
  simp [decodeChange, encodeChange, intChild, octetChild, childIs, modifyParameters_childOperation,
    modifyParameters_childModification, modifyParameters_childModificationType, modifyParameters_childModificationValues,
    valueOf_int (.inr rfl) h, Spec.set, modValues, expectedChange, Spec.wrap, List.map_map]

theorem decodeChanges_encode (cs : List CChange) (h : ∀ c ∈ cs, Int64 c.op) :
    decodeChanges (cs.map encodeChange) = .ok (cs.map expectedChange) := by
  induction cs with
  | nil => rfl
  | cons c cs ih => simp [decodeChanges, decodeChange_encode c (h c (by simp)), ih fun c hc => h c (by simp [hc])]

theorem decodeAttribute_encode (a : CAttr) : decodeAttribute (encodeAttr a) = .ok (expectedAttr a) := by
  simp [decodeAttribute, encodeAttr, octetChild, childIs, decodeAttribute_childType, decodeAttribute_childVals,
    octetList_map, expectedAttr]

theorem decodeAttributes_encode (l : List CAttr) : decodeAttributes (l.map encodeAttr) = .ok (l.map expectedAttr) := by
  induction l with
  | nil => rfl
  | cons a l ih => simp [decodeAttributes, decodeAttribute_encode, ih]

/-! ### each operation, read off the request packet `r` that `requestPacket` returned -/

section
variable {env : Env} {g : Guards} {p r : Node} (hr : requestPacket g p = .ok r)
include hr

variable {id : Int} (hid : requestMessageID p = .ok id)
include hid

theorem newMessage_bind {v : Node} {dn pw cs} (ht : r.tag = 0) (hk : r.kids = [v, Spec.octet dn, .prim 2 0 pw])
    (hcs : controlsOf env g p = .ok cs) : newMessage env g p = .ok (.bind id dn pw cs) := by
  rw [newMessage, requestType_of hr .bind ht, Outcome.ok_bind, hid, Outcome.ok_bind]
  simp [simpleBindParameters, hr, childIs, hk,
    simpleBindParameters_childBindUserName, simpleBindParameters_childBindPassword, hcs]

theorem newMessage_search {tt : UInt8} (htt : tt ≠ 0) {base sc de sz tm ty f attrs d cs} (ht : r.tag = 3)
    (hk : r.kids = [Spec.octet base, Spec.int 10 sc, Spec.int 10 de, Spec.int 2 sz, Spec.int 2 tm, Spec.bool tt ty, f,
      Spec.seq (attrs.map Spec.octet)])
    (h1 : Int64 sc) (h2 : Int64 de) (h3 : Int64 sz) (h4 : Int64 tm)
    (hf : env.decompile f = some d) (hcs : controlsOf env g p = .ok cs) :
    newMessage env g p = .ok (.search id base sc de sz tm ty d attrs cs) := by
  rw [newMessage, requestType_of hr .search ht, Outcome.ok_bind, hid, Outcome.ok_bind]
  simp only [searchParameters, hr, Outcome.ok_bind, ht, ApplicationSearchRequest,
    octetChild_octet hk (i := searchParmeters_childBaseDN) rfl,
    intChild_int hk (i := searchParmeters_childScope) rfl (.inr rfl) h1,
    intChild_int hk (i := searchParmeters_childDerefAliases) rfl (.inr rfl) h2,
    intChild_int hk (i := searchParmeters_childSizeLimit) rfl (.inl rfl) h3,
    intChild_int hk (i := searchParmeters_childTimeLimit) rfl (.inl rfl) h4,
    boolChild_bool hk (i := searchParmeters_childTypesOnly) rfl htt, hk]
  simp [searchParmeters_childFilter, searchParmeters_childAttributes, hf, octetList_map, hcs]

theorem newMessage_extended {name : Bytes} (ht : r.tag = 23) (hk : r.kids = [.prim 2 0 name]) :
    newMessage env g p = .ok (.extended id name) := by
  rw [newMessage, requestType_of hr .extended ht, Outcome.ok_bind, hid, Outcome.ok_bind]
  simp [extendedOperationName, hr, ht, ApplicationExtendedRequest,
    childIs, hk, extendedOperationName_childExtendedOperationName]

theorem newMessage_modify {dn} {chs : List CChange} {cs} (ht : r.tag = 6)
    (hk : r.kids = [Spec.octet dn, Spec.seq (chs.map encodeChange)]) (hch : ∀ c ∈ chs, Int64 c.op)
    (hcs : controlsOf env g p = .ok cs) : newMessage env g p = .ok (.modify id dn (chs.map expectedChange) cs) := by
  rw [newMessage, requestType_of hr .modify ht, Outcome.ok_bind, hid, Outcome.ok_bind]
  simp [modifyParameters, hr, ht, ApplicationModifyRequest,
    octetChild_octet hk (i := modifyParameters_childDN) rfl, childIs, hk, modifyParameters_childChanges,
    decodeChanges_encode chs hch, hcs]

theorem newMessage_add {dn} {attrs : List CAttr} {cs} (ht : r.tag = 8)
    (hk : r.kids = [Spec.octet dn, Spec.seq (attrs.map encodeAttr)]) (hcs : controlsOf env g p = .ok cs) :
    newMessage env g p = .ok (.add id dn (attrs.map expectedAttr) cs) := by
  rw [newMessage, requestType_of hr .add ht, Outcome.ok_bind, hid, Outcome.ok_bind]
  simp [addParameters, hr, ht, ApplicationAddRequest,
    octetChild_octet hk (i := addParameters_childDN) rfl, childIs, hk, addParameters_childAttributes,
    decodeAttributes_encode, hcs]

theorem newMessage_delete {cs} (ht : r.tag = 10) (hcs : controlsOf env g p = .ok cs) :
    newMessage env g p = .ok (.delete id r.data cs) := by
  rw [newMessage, requestType_of hr .delete ht, Outcome.ok_bind, hid, Outcome.ok_bind]
  simp [deleteParameters, hr, ht, ApplicationDelRequest, hcs]

theorem newMessage_unbind (ht : r.tag = 2) : newMessage env g p = .ok (.unbind id) := by
  rw [newMessage, requestType_of hr .unbind ht, Outcome.ok_bind, hid, Outcome.ok_bind]
  rfl
end

/-- every well-formed request of the seven operations reaches the handler as a message of
    the matching kind with exactly the client's fields, controls in order -/
theorem C01_roundtrip_tree (env : Env) (g : Guards) (tt : UInt8) (htt : tt ≠ 0) (r : CReq) (hw : r.WF)
    (decompiled : Bytes)
    (hf : ∀ id base sc de sz tm ty f attrs ctls, r = .search id base sc de sz tm ty f attrs ctls →
            env.decompile f = some decompiled) :
    newMessage env g (clientEncode tt r) = .ok (expected decompiled r) := by
  cases r with
  | bind id dn pw ctls =>
    exact newMessage_bind (envelope_request_bind g tt id dn pw ctls) (envelope_id tt _ _ _ hw.1) rfl rfl
      (envelope_controls env g tt htt _ _ _ hw.2)
  | search id base sc de sz tm ty f attrs ctls =>
    obtain ⟨hid, h1, h2, h3, h4, hc⟩ := hw
    exact newMessage_search (envelope_request g tt id _ ctls rfl (.inl rfl) (by simp)) (envelope_id tt _ _ _ hid)
      htt rfl rfl h1 h2 h3 h4 (hf _ _ _ _ _ _ _ _ _ _ rfl) (envelope_controls env g tt htt _ _ _ hc)
  | extended id name =>
    exact newMessage_extended (envelope_request g tt id _ [] rfl (.inl rfl) (by simp)) (envelope_id tt _ _ _ hw)
      rfl rfl
  | modify id dn chs ctls =>
    exact newMessage_modify (envelope_request g tt id _ ctls rfl (.inl rfl) (by simp)) (envelope_id tt _ _ _ hw.1)
      rfl rfl hw.2.1 (envelope_controls env g tt htt _ _ _ hw.2.2)
  | add id dn attrs ctls =>
    exact newMessage_add (envelope_request g tt id _ ctls rfl (.inl rfl) (by simp)) (envelope_id tt _ _ _ hw.1)
      rfl rfl (envelope_controls env g tt htt _ _ _ hw.2)
  | delete id dn ctls =>
    exact newMessage_delete (envelope_request g tt id _ ctls rfl (.inr (.inl rfl)) (by simp))
      (envelope_id tt _ _ _ hw.1) rfl (envelope_controls env g tt htt _ _ _ hw.2)
  | unbind id =>
    exact newMessage_unbind (envelope_request g tt id _ [] rfl (.inr (.inr rfl)) (by simp)) (envelope_id tt _ _ _ hw) rfl

/-- the same statement for the bytes on the wire: gldap's read path (`ber.ReadPacket` model,
    `basicValidation`, `newMessage`) applied to the canonical serialisation of the client's
    message, with anything whatsoever following it in the stream -/
theorem C01_roundtrip (env : Env) (g : Guards) (tt : UInt8) (htt : tt ≠ 0) (r : CReq) (hw : r.WF) (hber : (clientEncode tt r).WF env.ext)
    (decompiled : Bytes) (rest : Bytes)
    (hf : ∀ id base sc de sz tm ty f attrs ctls, r = .search id base sc de sz tm ty f attrs ctls →
            env.decompile f = some decompiled) :
    serveFrame env g (ser (clientEncode tt r) ++ rest) = .ok (expected decompiled r) := by
  have hb : basicValidation (clientEncode tt r) = true := by
    cases r <;> exact envelope_basic tt _ _ _
  simp [serveFrame, readPacket_ser env.ext _ rest hber, hb, C01_roundtrip_tree env g tt htt r hw decompiled hf]

theorem C01_current (env : Env) (tt : UInt8) (htt : tt ≠ 0) (r : CReq) (hw : r.WF) (hber : (clientEncode tt r).WF env.ext)
    (decompiled rest : Bytes)
    (hf : ∀ id base sc de sz tm ty f attrs ctls, r = .search id base sc de sz tm ty f attrs ctls →
            env.decompile f = some decompiled) :
    serveFrame env Generated.guards (ser (clientEncode tt r) ++ rest) = .ok (expected decompiled r) :=
  C01_roundtrip env Generated.guards tt htt r hw hber decompiled rest hf

/-! ### nothing is delivered as another kind (over ALL trees, not only the encoder's image) -/

theorem newMessage_kind (env : Env) (g : Guards) (p : Node) (m : Msg) (h : newMessage env g p = .ok m) :
    ∃ ty, requestType g p = .ok ty ∧ m.appTag = ty.appTag := by
  simp only [newMessage, Outcome.bind_eq_ok] at h
  obtain ⟨ty, hty, id, -, h⟩ := h
  refine ⟨ty, hty, ?_⟩
  cases ty <;> simp only [Outcome.bind_eq_ok, Outcome.pure_eq, Outcome.ok.injEq] at h
  case unbind => subst h; rfl
  -- the other six: the parameters are read, then the message of that kind is built from them
  all_goals (obtain ⟨_, _, rfl⟩ := h; rfl)

/-- Whatever tree arrives: if a message is delivered, its kind is the one of the protocolOp's
    application tag, so that tag is one of the seven supported ones; and a delivered Bind has
    version 3. A compare / modifyDN / abandon / unknown operation, or a Bind of another
    version, is never delivered as some other kind of request. -/
theorem C01_kind (env : Env) (g : Guards) (p : Node) (m : Msg) (h : newMessage env g p = .ok m) :
    ∃ r, p.kids[1]? = some r ∧ r.tag = m.appTag ∧ m.appTag ∈ [0, 2, 3, 6, 8, 10, 23] ∧
      (r.tag = 0 → ∃ v, r.kids[0]? = some v ∧ valueOf v = .int 3) := by
  obtain ⟨ty, hty, hm⟩ := newMessage_kind env g p m h
  obtain ⟨r, hr, htag⟩ := requestType_ok g p ty hty
  obtain ⟨hk, hv⟩ := requestPacket_ok g p r hr
  refine ⟨r, hk, by rw [htag, hm], ?_, hv⟩
  rw [hm]; cases ty <;> simp [ReqType.appTag]

theorem C01_unsupported (env : Env) (g : Guards) (p r : Node) (hr : p.kids[1]? = some r)
    (ht : r.tag ∉ [0, 2, 3, 6, 8, 10, 23]) (m : Msg) : newMessage env g p ≠ .ok m := by
  intro h
  obtain ⟨r', hr', htag, hmem, _⟩ := C01_kind env g p m h
  obtain rfl : r = r' := Option.some.inj (hr.symm.trans hr')
  exact ht (htag ▸ hmem)

theorem C01_bind_version (env : Env) (g : Guards) (p r v : Node) (hr : p.kids[1]? = some r) (h0 : r.tag = 0)
    (hv : r.kids[0]? = some v) (hne : valueOf v ≠ .int 3) (m : Msg) : newMessage env g p ≠ .ok m := by
  intro h
  obtain ⟨r', hr', _, _, hver⟩ := C01_kind env g p m h
  obtain rfl : r = r' := Option.some.inj (hr.symm.trans hr')
  obtain ⟨v', hv', h3⟩ := hver h0
  obtain rfl : v = v' := Option.some.inj (hv.symm.trans hv')
  exact hne h3

/-! ### non-vacuity: concrete requests meet the hypotheses -/

def exBind : CReq := .bind 7 [99, 110, 61, 97] [112, 119] [.paging 100 [1, 2], .generic [49, 46, 50] true false [120]]

set_option maxRecDepth 8192 in
example : newMessage envNone allGuards (clientEncode 255 exBind) =
    .ok (.bind 7 [99, 110, 61, 97] [112, 119] [.paging 100 [1, 2], .str [49, 46, 50] true [120]]) := by decide

set_option maxRecDepth 8192 in
example : newMessage envNone allGuards
    (clientEncode 255 (.modify 9 [100] [⟨2, [109], [[97], [98, 99]]⟩] [])) =
    .ok (.modify 9 [100] [⟨2, [109], [[4, 1, 97], [4, 2, 98, 99]]⟩] []) := by decide

/-- a ModifyDN request (application tag 12) is rejected -/
example : newMessage envNone allGuards
    (Spec.seq [Spec.int 2 1, .cons 1 12 [Spec.octet [97]]]) = .err := by decide

end Gldap
