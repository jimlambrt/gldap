import GldapModel.Proofs.ConnLoopInv
import GldapModel.Generated.Facts
/-! # C13 - StartTLS upgrades a connection atomically and completely (the plumbing part) -/
namespace ConnLoop

/-- While the StartTLS handler runs (between `inline r` and its `inlinedone r`) the connection
    goroutine reads nothing and dispatches nothing: the handshake started by Request.StartTLS
    sees the client's next byte, whatever the handler's timing. -/
theorem C13_exclusive (F : Facts) (pre mid : List Ev) (r : Nat) (s : St)
    (h : run F init (pre ++ [.inline r] ++ mid) = some s)
    (hmid : Ev.inlinedone r ∉ mid ∧ Ev.recovered ∉ mid) : ∀ e ∈ mid, e.servesRequest = false := by
  obtain ⟨m, m', -, hs, hr⟩ := (isRun F).split h
  exact quiet_run (X := (· = .inlinedone r)) in_handler hr (.inl (inline_enters (step_inv hs).goes))
    fun e he hx => hmid.1 (hx ▸ he)

/-- the writer a request uses is created in the loop iteration that read it, i.e. after any
    swap performed by an earlier StartTLS handler; the swap itself happens on the connection
    goroutine while it is inside the inline handler -/
theorem C13_current_facts :
    Gldap.Generated.connFacts.startTLS = .inline ∧ Gldap.Generated.connFacts.writerPerIteration = true := by decide

theorem C13_current (pre mid : List Ev) (r : Nat) (s : St)
    (h : run Gldap.Generated.connFacts init (pre ++ [.inline r] ++ mid) = some s)
    (hmid : Ev.inlinedone r ∉ mid ∧ Ev.recovered ∉ mid) : ∀ e ∈ mid, e.servesRequest = false :=
  C13_exclusive _ pre mid r s h hmid

/-- why inline dispatch matters: dispatched to a goroutine, the loop reads on during the handler -/
theorem C13_counterexample :
    (run { goodFacts with startTLS := .goroutine } init [.start, .head 1, .read 1, .inline 1]) = none ∧
    (run goodFacts init [.start, .head 1, .read 1, .spawn 1, .reqStart 1, .head 2]).isSome = true := by decide


/-! ### "completely": requests read after the upgrade answer through the upgraded writer -/

/-- the connection writer's generation never goes back -/
theorem writerGen_mono_step {F : Facts} {s s' : St} {e : Ev} (h : step F s e = some s') : s.writerGen ≤ s'.writerGen :=
  (step_inv h).writerGen ▸ Nat.le_add_right ..

theorem writerGen_mono (F : Facts) (es : List Ev) (s s' : St) (h : run F s es = some s') : s.writerGen ≤ s'.writerGen :=
  (isRun F).induction (P := fun s _ s' => s.writerGen ≤ s'.writerGen) (fun _ => Nat.le_refl _)
    (fun hs ih => Nat.le_trans (writerGen_mono_step hs) ih) h

/-- a step only ever appends to the record of writers, and what it appends is the writer the
    connection has at that moment -/
theorem writers_step {F : Facts} (hF : F.writerPerIteration = true) {s s' : St} {e : Ev} (h : step F s e = some s') :
    ∃ l, s'.writers = s.writers ++ l ∧ ∀ p ∈ l, p.2 = s.writerGen := by
  have hw := (step_inv h).writers
  cases he : headNo e <;> rw [he] at hw
  · exact ⟨[], by simpa using hw, by simp⟩
  · exact ⟨[_], hw, by simp [writerGenFor, hF]⟩

/-- every writer recorded during a run from state `s` wraps a generation at least `s.writerGen` -/
theorem writers_run (F : Facts) (hF : F.writerPerIteration = true) (es : List Ev) (s s' : St) (h : run F s es = some s') :
    ∃ added, s'.writers = s.writers ++ added ∧ ∀ p ∈ added, s.writerGen ≤ p.2 :=
  (isRun F).induction (P := fun s _ s' => ∃ added, s'.writers = s.writers ++ added ∧ ∀ p ∈ added, s.writerGen ≤ p.2)
    (fun _ => ⟨[], by simp⟩)
    (fun hs ⟨added, h1, h2⟩ => by
      obtain ⟨l, hl, hl2⟩ := writers_step hF hs
      refine ⟨l ++ added, by rw [h1, hl, List.append_assoc], fun p hp => ?_⟩
      rcases List.mem_append.mp hp with hp | hp
      · exact Nat.le_of_eq (hl2 p hp).symm
      · exact Nat.le_trans (writerGen_mono_step hs) (h2 p hp))
    h

/-- **After the upgrade every response goes through the upgraded writer.** Whatever happened
    before and during the StartTLS handler (which swaps the connection's reader and writer on
    the connection goroutine, event `init`), every request numbered after the handler returned
    (`inlinedone r`) gets a ResponseWriter that wraps the connection writer of a generation at
    least as new as the one installed by the swap - never the plaintext writer of before. -/
theorem C13_tunnel_writer (F : Facts) (hF : F.writerPerIteration = true) (pre post : List Ev) (r : Nat) (m s : St)
    (h1 : run F init (pre ++ [.inlinedone r]) = some m) (h2 : run F m post = some s) :
    ∃ added, s.writers = m.writers ++ added ∧ ∀ p ∈ added, m.writerGen ≤ p.2 :=
  writers_run F hF post m s h2

theorem C13_tunnel_writer_current (pre post : List Ev) (r : Nat) (m s : St)
    (h1 : run Gldap.Generated.connFacts init (pre ++ [.inlinedone r]) = some m) (h2 : run Gldap.Generated.connFacts m post = some s) :
    ∃ added, s.writers = m.writers ++ added ∧ ∀ p ∈ added, m.writerGen ≤ p.2 :=
  C13_tunnel_writer _ (by decide) pre post r m s h1 h2

/-- why the writer must be created inside the loop: created once when the loop is entered, a
    request read after the swap (generation 2) would still answer through generation 1 -/
theorem C13_counterexample_stale_writer :
    ((run { goodFacts with writerPerIteration := false } init
        [.init, .start, .head 1, .read 1, .inline 1, .init, .inlinedone 1, .head 2]).map (fun s => (s.writerGen, s.writers))) =
      some (2, [(1, 1), (2, 1)]) ∧
    ((run goodFacts init
        [.init, .start, .head 1, .read 1, .inline 1, .init, .inlinedone 1, .head 2]).map (fun s => (s.writerGen, s.writers))) =
      some (2, [(1, 1), (2, 2)]) := by decide

/-- non-vacuity: StartTLS as second request; the swap (`init`) happens inside the handler -/
example : (run goodFacts init [.init, .start, .head 1, .read 1, .spawn 1, .head 2, .read 2, .inline 2, .reqStart 1,
    .init, .inlinedone 2, .head 3]).map (fun s => (s.phase, s.writerGen)) = some (.reading 3, 2) := by decide

end ConnLoop
