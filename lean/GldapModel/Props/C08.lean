import GldapModel.Proofs.ServerGood
import GldapModel.Proofs.ConnLoopInv
import GldapModel.Generated.Facts
/-! # C08 - each connection is closed and reported via OnClose once, after its handlers end -/
namespace Server

/-- however the read loop ends (`connExit`: EOF, reset, unbind, bad frame, unsupported op, timeout;
    `connPanic`: a recovered panic; `connExitShutdown`: server Stop), for any number of
    connections ending concurrently: at most one socket close and one OnClose per connection,
    OnClose only after the close, the close only with no handler left, and a connection whose
    goroutine is gone has had exactly one of each -/
theorem C08_once (n : Nat) (ls : List Label) (s : Srv) (hr : run goodFacts (init n) ls = some s) :
    ∀ c ∈ s.conns, c.netClosed ≤ 1 ∧ c.onClosed ≤ 1 ∧ (c.onClosed = 1 → c.netClosed = 1 ∧ c.live = 0) ∧
      (c.netClosed = 1 → c.live = 0) ∧ (c.gor = .gone → c.netClosed = 1 ∧ c.onClosed = 1 ∧ c.live = 0) := by
  intro c hc
  have := (inv_of_run hr).g.conns c hc
  unfold ConnOK at this
  split at this <;> simp_all

theorem C08_at_most_once_good (n : Nat) (ls : List Label) (s : Srv) (hr : run goodFacts (init n) ls = some s) :
    ∀ c ∈ s.conns, c.netClosed ≤ 1 ∧ c.onClosed ≤ 1 ∧ (c.onClosed = 1 → c.netClosed = 1 ∧ c.live = 0) :=
  fun c hc => have ⟨h1, h2, h3, _⟩ := C08_once n ls s hr c hc; ⟨h1, h2, h3⟩

/-- the id reported to OnClose is the one assigned at accept (ids never change) and is unique (C09) -/
theorem C08_ids (n : Nat) (ls : List Label) (s : Srv) (hr : run goodFacts (init n) ls = some s) :
    (s.conns.map (·.id)).Nodup := (inv_of_run hr).i.nodup

theorem C08_current_facts : Gldap.Generated.serverFacts = goodFacts := by decide

theorem C08_current (n : Nat) (ls : List Label) (s : Srv)
    (hr : run Gldap.Generated.serverFacts (init n) ls = some s) :
    ∀ c ∈ s.conns, c.netClosed ≤ 1 ∧ c.onClosed ≤ 1 ∧ (c.onClosed = 1 → c.netClosed = 1 ∧ c.live = 0) ∧
      (c.netClosed = 1 → c.live = 0) ∧ (c.gor = .gone → c.netClosed = 1 ∧ c.onClosed = 1 ∧ c.live = 0) := by
  rw [C08_current_facts] at hr
  exact C08_once n ls s hr

/-- per connection, event by event: the close event is enabled only when every request that was
    handed a goroutine has finished -/
theorem C08_close_after_handlers (F : ConnLoop.Facts) (hF : F.closeWaitsHandlers = true) (s s' : ConnLoop.St)
    (h : ConnLoop.step F s .netclose = some s') : ∀ r ∈ s.spawned, r ∈ s.finished :=
  ConnLoop.netclose_after_handlers F hF s s' h

/-- if `conn.close` did not wait, the socket could be closed under a running handler -/
theorem C08_counterexample_nowait :
    (run { goodFacts with connCloseWaitsHandlers := false } (init 0)
      [.runListen true, .runLoopTop, .runAcceptOk, .runSpawn, .handlerStart 1, .connExit 1, .teardown 1]).map
      (fun s => s.conns.map (fun c => (c.netClosed, c.live))) = some [(1, 1)] := by decide

end Server
