import GldapModel.Props.Session
import GldapModel.Props.C20
import GldapModel.Directory.StoreSession
/-! # C20 end to end: from the bytes of add / modify / delete / search requests to the bytes of
    the directory's answers

The directory's handlers as scripts over its store (`Directory.dirScript`), composed with
`C01_roundtrip` (what the handler receives), the mux model (which of the nine handlers runs) and
`responseBytes` (what `Write` sends): the conversation of a client with a connection of the test
directory, for every store, every request and whatever follows it on the stream. -/
namespace Directory
open Ber Spec Gldap Gldap.Generated Gldap.Session

theorem dirSession_step {env : Env} {g : Guards} {bs : Bytes} {msg : Msg} (h : serveFrame env g bs = .ok msg)
    (hu : msg.isUnbind = false) (table) (d : Dir) (fuel : Nat) :
    dirSession env table g d (fuel + 1) bs =
      (respond table g (dirCfg d) msg ++ (dirSession env table g (d.after msg) fuel (frameRest env bs)).1,
       (dirSession env table g (d.after msg) fuel (frameRest env bs)).2) := by
  rw [dirSession]; simp [nonempty_of_ok h, h, hu]

theorem dirSession_bye {env : Env} {g : Guards} {bs : Bytes} {msg : Msg} (h : serveFrame env g bs = .ok msg)
    (hu : msg.isUnbind = true) (table) (d : Dir) (fuel : Nat) :
    dirSession env table g d (fuel + 1) bs = (respondUnbind g (dirCfg d) msg.id, .unbind, d) := by
  rw [dirSession]; simp [nonempty_of_ok h, h, hu]

/-- a request the client sent (not an Unbind), whatever follows it: the directory answers from
    the store as it is, and goes on with the store as the handler left it -/
theorem dirSession_cons (env : Env) (table) (g : Guards) (d : Dir) (tt : UInt8) (htt : tt ≠ 0)
    (dec : CReq → Bytes) (r : CReq) (hs : Sendable env tt dec r) (hu : r.isUnbind = false)
    (fuel : Nat) (rest : Bytes) :
    dirSession env table g d (fuel + 1) (ser (clientEncode tt r) ++ rest) =
      (respond table g (dirCfg d) (expected (dec r) r) ++
         (dirSession env table g (d.after (expected (dec r) r)) fuel rest).1,
       (dirSession env table g (d.after (expected (dec r) r)) fuel rest).2) := by
  rw [dirSession_step (C01_roundtrip env g tt htt r hs.wf hs.ber (dec r) rest hs.filter) (by rw [expected_isUnbind, hu]),
    frameRest_ser env _ rest hs.ber]

theorem dir_unbind (s : Store) : (Mux.build (dirRegs s)).unbind = none := rfl

/-- nothing after an Unbind is served, and the store stays as it was -/
theorem dirSession_unbind (env : Env) (table) (g : Guards) (d : Dir) (tt : UInt8) (htt : tt ≠ 0)
    (id : Int) (hid : Int64 id) (hber : (clientEncode tt (.unbind id)).WF env.ext) (fuel : Nat) (rest : Bytes) :
    dirSession env table g d (fuel + 1) (ser (clientEncode tt (.unbind id)) ++ rest) = ([], .unbind, d) := by
  rw [dirSession_bye (C01_roundtrip env g tt htt (.unbind id) hid hber [] rest (by intros; contradiction)) rfl]
  simp [respondUnbind, respondUnbindR, dirCfg, dir_unbind]

/-! ### which handler the mux picks -/

theorem dir_routes (s : Store) :
    (Mux.build (dirRegs s)).routes =
      [(.bind, 1), (.extended startTLSOid, 2), (.search s.userDN [] 0, 3), (.search s.groupDN [] 0, 4),
       (.search [] [] 0, 5), (.modify, 6), (.add, 7), (.delete, 8)] := by
  simp [Mux.build, dirRegs, Mux.register, Mux.empty]

theorem dir_serve_add (table) (s : Store) (id : Int) (dn : Bytes) (as : List Attr) (cs : List Control) :
    serve table (Mux.build (dirRegs s)) (.add id dn as cs) = [.invoke 7] := by
  simp [serve, dir_routes, serveLoop, matchesRoute]

theorem dir_serve_modify (table) (s : Store) (id : Int) (dn : Bytes) (chs : List Change) (cs : List Control) :
    serve table (Mux.build (dirRegs s)) (.modify id dn chs cs) = [.invoke 6] := by
  simp [serve, dir_routes, serveLoop, matchesRoute]

theorem dir_serve_delete (table) (s : Store) (id : Int) (dn : Bytes) (cs : List Control) :
    serve table (Mux.build (dirRegs s)) (.delete id dn cs) = [.invoke 8] := by
  simp [serve, dir_routes, serveLoop, matchesRoute]

/-- the handler number of a search route -/
def SearchRoute.handler : SearchRoute → Nat
  | .users => 3 | .groups => 4 | .generic => 5

/-- the mux's choice among the three search routes is `routeSearch` -/
theorem dir_serve_search (table) (s : Store) (id : Int) (base : Bytes) (sc de sz tm : Int) (ty : Bool)
    (f : Bytes) (attrs : List Bytes) (cs : List Control) :
    serve table (Mux.build (dirRegs s)) (.search id base sc de sz tm ty f attrs cs) =
      [.invoke (routeSearch s base).handler] := by
  simp only [serve, dir_routes, serveLoop, matchesRoute, routeSearch, List.isEmpty_nil, Bool.true_or, Bool.and_true,
    beq_self_eq_true, Bool.false_eq_true, if_false, if_true]
  generalize (s.groupDN.isEmpty || equalFold base s.groupDN) = b
  cases s.userDN.isEmpty <;> cases equalFold base s.userDN <;> cases b <;> rfl

/-! ### what each request is answered with -/

theorem respond_add (table) (g : Guards) (d : Dir) (id : Int) (dn : Bytes) (as : List Attr) (cs : List Control) :
    respondR table g (dirCfg d) (.add id dn as cs) = runScript g id (addScript d.store dn) :=
  respondR_of_serve (cfg := dirCfg d) (dir_serve_add table d.store id dn as cs)

theorem respond_modify (table) (g : Guards) (d : Dir) (id : Int) (dn : Bytes) (chs : List Change) (cs : List Control) :
    respondR table g (dirCfg d) (.modify id dn chs cs) = runScript g id (modifyScript d.store dn) :=
  respondR_of_serve (cfg := dirCfg d) (dir_serve_modify table d.store id dn chs cs)

theorem respond_delete (table) (g : Guards) (d : Dir) (id : Int) (dn : Bytes) (cs : List Control) :
    respondR table g (dirCfg d) (.delete id dn cs) = runScript g id (deleteScript d.store dn) :=
  respondR_of_serve (cfg := dirCfg d) (dir_serve_delete table d.store id dn cs)

/-- a search is answered by the handler the mux picks, from `Directory.search` -/
theorem respond_search (table) (g : Guards) (d : Dir) (id : Int) (base : Bytes) (sc de sz tm : Int) (ty : Bool)
    (f : Bytes) (attrs : List Bytes) (cs : List Control) :
    respondR table g (dirCfg d) (.search id base sc de sz tm ty f attrs cs) =
      runScript g id (searchScript d.dctls (search d.store base f)) := by
  rw [respondR_of_serve (cfg := dirCfg d) (dir_serve_search table d.store id base sc de sz tm ty f attrs cs), search]
  cases routeSearch d.store base <;> rfl

/-! ### the responses, as objects -/

/-- a matching entry as the client gets it -/
def entryResp (id : Int) (e : Entry) : Resp :=
  applySets (newSearchResponseEntry id e.dn []) (e.attrs.map fun a => .addAttr a.name a.values)

/-- the SearchResultDone after at least one entry -/
def doneResp (id : Int) (dctls : List Control) (found : Bool) : Resp :=
  applySets (newSearchDoneResponse id [.code ResultNoSuchObject]) (doneSpec dctls found).sets

theorem build_entrySpec (g : Guards) (id : Int) (e : Entry) : build g id (entrySpec e) = .ok (entryResp id e) := by
  simp [build, construct, entrySpec, entryResp]

theorem runScript_entries (g : Guards) (id : Int) (es : List Entry) (rest : List RespSpec) :
    runScript g id (es.map entrySpec ++ rest) = es.map (entryResp id) ++ runScript g id rest := by
  induction es with
  | nil => rfl
  | cons e es ih => simp only [List.map_cons, List.cons_append, runScript, build_entrySpec, ih]

/-- a search handler's frames: one per entry found, in order, then the SearchResultDone -/
theorem runScript_search (g : Guards) (id : Int) (dctls : List Control) (r : Nat × List Entry) :
    runScript g id (searchScript dctls r) = r.2.map (entryResp id) ++ [doneResp id dctls (!r.2.isEmpty)] := by
  rw [searchScript, runScript_entries]
  rfl

/-- the answer to an add -/
def addResp (s : Store) (id : Int) (dn : Bytes) : Resp :=
  applySets (newResponse id [.appCode ApplicationAddResponse, .code ResultOperationsError])
    (if (findIdx (paren dn) s.users).isEmpty then [.code ResultSuccess]
     else [.code ResultEntryAlreadyExists, .diag (entryExistsDiag ++ dn)])

theorem runScript_add (g : Guards) (s : Store) (id : Int) (dn : Bytes) :
    runScript g id (addScript s dn) = [addResp s id dn] := by
  simp [addScript, runScript, build, construct, addResp]

/-- the result code of the add response is the one the store's `add` returns -/
theorem addResp_code (s : Store) (id : Int) (dn : Bytes) (attrs : List (Bytes × List Bytes)) :
    (addResp s id dn).code = toInt16 ((add s dn attrs).2 : Nat) ∧ (addResp s id dn).messageID = id ∧
      (addResp s id dn).kind = .general ApplicationAddResponse := by
  unfold addResp add
  split <;> simp [applySets, applySet, newResponse, getResponseOpts, applyROpt, responseDefaults, baseResp]

/-! ### reads do not change the store -/

/-- requests other than add / modify / delete leave the directory as it is -/
theorem after_read (d : Dir) (msg : Msg)
    (h : match msg with | .add .. => False | .modify .. => False | .delete .. => False | _ => True) :
    d.after msg = d := by
  cases msg with
  | add | modify | delete => exact h.elim
  | _ => rfl

/-! ### the property, on the wire: what was added is what a later read returns -/

/-- **C20 on the wire: add, then read back.** Over a directory whose DNs come from a pool of
    clean DNs none of which is a substring of another, a client adds an entry under a DN not yet
    present and then searches with that DN as base (a base below the user base that the mux hands
    to the generic handler): the connection writes the add's success, then exactly one
    SearchResultEntry - the entry just added, with the attributes `NewEntry` builds from the
    request - then the SearchResultDone with success, then goes on with the rest of the stream
    over the grown store. -/
theorem C20_wire_add_then_read (env : Env) (table) (g : Guards) (tt : UInt8) (htt : tt ≠ 0)
    (pool : List Bytes) (hp : Pool pool) (d : Dir) (hg : Good pool d.store) (dn : Bytes) (hd : dn ∈ pool)
    (habs : hasDN d.store.users dn = false) (habsg : hasDN d.store.groups dn = false)
    (hroute : routeSearch d.store dn = .generic) (hsub : containsBytes dn d.store.userDN = true)
    (dec : CReq → Bytes) (id1 id2 : Int) (attrs : List CAttr) (c1 c2 : List CCtl)
    (sc de sz tm : Int) (ty : Bool) (f : Node) (want : List Bytes)
    (hs1 : Sendable env tt dec (.add id1 dn attrs c1))
    (hs2 : Sendable env tt dec (.search id2 dn sc de sz tm ty f want c2))
    (fuel : Nat) (rest : Bytes) :
    let e := mkEntry dn ((attrs.map expectedAttr).map attrOf)
    let d' : Dir := { d with store := { d.store with users := d.store.users ++ [e] } }
    dirSession env table g d (fuel + 2)
        (ser (clientEncode tt (.add id1 dn attrs c1)) ++ (ser (clientEncode tt (.search id2 dn sc de sz tm ty f want c2)) ++ rest)) =
      ([responseBytes (addResp d.store id1 dn), responseBytes (entryResp id2 e), responseBytes (doneResp id2 d.dctls true)] ++
         (dirSession env table g d' fuel rest).1,
       (dirSession env table g d' fuel rest).2) ∧
    (addResp d.store id1 dn).code = 0 := by
  intro e d'
  have hspec := (lookup_after_add d.store dn ((attrs.map expectedAttr).map attrOf) habs).1
  have hadd : add d.store dn ((attrs.map expectedAttr).map attrOf) = (d'.store, ResultSuccess) :=
    (add_refines pool hp d.store hg dn hd _).trans hspec
  have hg' : Good pool d'.store := by
    have := specAdd_good pool d.store hg dn hd ((attrs.map expectedAttr).map attrOf)
    rwa [hspec] at this
  have hsearch : search d'.store dn (dec (.search id2 dn sc de sz tm ty f want c2)) = (ResultSuccess, [e]) := by
    rw [search_generic_refines pool hp d'.store hg' dn hd _ hroute hsub]
    simp [d', List.filter_append, filter_absent habs, filter_absent habsg, e, mkEntry]
  have hd1 : d.after (expected (dec (.add id1 dn attrs c1)) (.add id1 dn attrs c1)) = d' := by
    simp only [Dir.after, expected, dirUpdate, hadd]; rfl
  rw [show fuel + 2 = fuel + 1 + 1 from rfl, dirSession_cons env table g d tt htt dec _ hs1 rfl, hd1,
    dirSession_cons env table g d' tt htt dec _ hs2 rfl, after_read d' _ trivial]
  refine ⟨?_, ?_⟩
  · simp only [respond, expected, respond_add, respond_search, runScript_add, hsearch, runScript_search]
    simp [d']
  · rewrite [(addResp_code d.store id1 dn ((attrs.map expectedAttr).map attrOf)).1, hadd]
    simp [toInt16, ResultSuccess]

/-- **... and a delete makes it unreadable again.** A client deletes a user entry that is
    present and then searches with its DN as base: the delete is answered with success, the
    search with a bare SearchResultDone carrying noSuchObject. -/
theorem C20_wire_delete_then_read (env : Env) (table) (g : Guards) (tt : UInt8) (htt : tt ≠ 0)
    (pool : List Bytes) (hp : Pool pool) (d : Dir) (hg : Good pool d.store) (dn : Bytes) (hd : dn ∈ pool)
    (hpres : hasDN d.store.users dn = true) (habsg : hasDN d.store.groups dn = false)
    (hroute : routeSearch d.store dn = .generic) (hsub : containsBytes dn d.store.userDN = true)
    (dec : CReq → Bytes) (id1 id2 : Int) (c1 c2 : List CCtl)
    (sc de sz tm : Int) (ty : Bool) (f : Node) (want : List Bytes)
    (hs1 : Sendable env tt dec (.delete id1 dn c1))
    (hs2 : Sendable env tt dec (.search id2 dn sc de sz tm ty f want c2))
    (fuel : Nat) (rest : Bytes) :
    let d' : Dir := { d with store := (specDelete d.store dn).1 }
    (dirSession env table g d (fuel + 2)
        (ser (clientEncode tt (.delete id1 dn c1)) ++ (ser (clientEncode tt (.search id2 dn sc de sz tm ty f want c2)) ++ rest))).1 =
      (runScript g id1 (deleteScript d.store dn)).map responseBytes ++
        [responseBytes (doneResp id2 d.dctls false)] ++ (dirSession env table g d' fuel rest).1 := by
  intro d'
  have hs' : d'.store = { d.store with users := d.store.users.filter (fun e => e.dn != dn) } := by
    simp only [d', specDelete, hpres, if_true]
  have hsearch : search d'.store dn (dec (.search id2 dn sc de sz tm ty f want c2)) = (ResultNoSuchObject, []) := by
    rw [search_generic_refines pool hp d'.store (specDelete_good pool d.store hg dn) dn hd _
      (by rw [hs']; exact hroute) (by rw [hs']; exact hsub), filter_absent (lookup_after_delete d.store dn).2, hs']
    simp [filter_absent habsg]
  have hd1 : d.after (expected (dec (.delete id1 dn c1)) (.delete id1 dn c1)) = d' := by
    simp only [Dir.after, expected, dirUpdate, delete_refines pool hp d.store hg dn hd, d']
  rw [show fuel + 2 = fuel + 1 + 1 from rfl, dirSession_cons env table g d tt htt dec _ hs1 rfl, hd1,
    dirSession_cons env table g d' tt htt dec _ hs2 rfl, after_read d' _ trivial]
  simp only [respond, expected, respond_delete, respond_search, hsearch, runScript_search]
  simp [d']

theorem C20_wire_add_then_read_current (env : Env) (tt : UInt8) (htt : tt ≠ 0)
    (pool : List Bytes) (hp : Pool pool) (d : Dir) (hg : Good pool d.store) (dn : Bytes) (hd : dn ∈ pool)
    (habs : hasDN d.store.users dn = false) (habsg : hasDN d.store.groups dn = false)
    (hroute : routeSearch d.store dn = .generic) (hsub : containsBytes dn d.store.userDN = true)
    (dec : CReq → Bytes) (id1 id2 : Int) (attrs : List CAttr) (c1 c2 : List CCtl)
    (sc de sz tm : Int) (ty : Bool) (f : Node) (want : List Bytes)
    (hs1 : Sendable env tt dec (.add id1 dn attrs c1))
    (hs2 : Sendable env tt dec (.search id2 dn sc de sz tm ty f want c2))
    (fuel : Nat) (rest : Bytes) :
    let e := mkEntry dn ((attrs.map expectedAttr).map attrOf)
    let d' : Dir := { d with store := { d.store with users := d.store.users ++ [e] } }
    dirSession env Generated.refusalTable Generated.guards d (fuel + 2)
        (ser (clientEncode tt (.add id1 dn attrs c1)) ++ (ser (clientEncode tt (.search id2 dn sc de sz tm ty f want c2)) ++ rest)) =
      ([responseBytes (addResp d.store id1 dn), responseBytes (entryResp id2 e), responseBytes (doneResp id2 d.dctls true)] ++
         (dirSession env Generated.refusalTable Generated.guards d' fuel rest).1,
       (dirSession env Generated.refusalTable Generated.guards d' fuel rest).2) ∧
    (addResp d.store id1 dn).code = 0 :=
  C20_wire_add_then_read env Generated.refusalTable Generated.guards tt htt pool hp d hg dn hd habs habsg hroute hsub
    dec id1 id2 attrs c1 c2 sc de sz tm ty f want hs1 hs2 fuel rest

def exUserDN : Bytes := [111, 117, 61, 112]                          -- "ou=p"
def exGroupDN : Bytes := [111, 117, 61, 103]                         -- "ou=g"
def exDN : Bytes := [99, 110, 61, 97, 44, 111, 117, 61, 112]         -- "cn=a,ou=p"
def exDir : Dir := { store := ⟨[], [], exUserDN, exGroupDN⟩, allowAnon := false, dctls := [] }
def exEnv : Env := { ext := fun _ _ => true, decompile := fun _ => some [40, 99, 110, 61, 42, 41] }   -- "(cn=*)"

theorem cleanDN_exDN : CleanDN exDN := .of_check (by decide) (by decide) (by decide) (by decide)

/-- the premises of `C20_wire_add_then_read` hold of a concrete directory and DN -/
example : Pool [exDN] ∧ Good [exDN] exDir.store ∧ hasDN exDir.store.users exDN = false ∧
    hasDN exDir.store.groups exDN = false ∧ routeSearch exDir.store exDN = .generic ∧
    containsBytes exDN exDir.store.userDN = true :=
  ⟨.singleton cleanDN_exDN, ⟨nofun, nofun, .nil, .nil⟩, by decide, by decide, by decide, by decide⟩

/-- ... and the conversation itself, evaluated: add "cn=a,ou=p" with one attribute (id 1), search
    it (id 2), delete it (id 3), search again (id 4) - AddResponse 0; the entry and SearchResultDone 0;
    DelResponse 0; SearchResultDone 32 -/
example :
    let srch (id : Int) : CReq := .search id exDN 0 0 0 0 false (.prim 2 7 [99, 110]) [] []
    let input := ser (clientEncode 255 (.add 1 exDN [⟨[99, 110], [[97]]⟩] [])) ++ ser (clientEncode 255 (srch 2)) ++
      ser (clientEncode 255 (.delete 3 exDN [])) ++ ser (clientEncode 255 (srch 4))
    let out := dirSession exEnv none allGuards exDir 10 input
    out.2.1 = .eof ∧ out.2.2.store.users = [] ∧
      out.1.map (fun f => (readPacket exEnv.ext f).bind (fun p => (readResponse exEnv.ext p.1).map
        (fun v => (v.messageID, v.tag, match v with | .result _ _ c .. => c | .entry .. => -1)))) =
        [some (1, 9, 0), some (2, 4, -1), some (2, 5, 0), some (3, 11, 0), some (4, 5, 32)] := by
  decide +kernel

end Directory
