import GldapModel.Proofs.ConnLoopInv
import GldapModel.Generated.Facts
/-! # C06 - requests on a connection are numbered in order and dispatched concurrently -/
namespace ConnLoop

/-- In every event sequence the connection automaton accepts - any pipeline, any mix of
    operations, any progress of the handlers - the loop heads are numbered 1, 2, 3, ... in
    arrival order. -/
theorem C06_ids_sequential (F : Facts) (es : List Ev) (s : St) (h : run F init es = some s) :
    es.filterMap headNo = List.range' 1 s.reqs := by
  simpa [run_log h, init] using (numbered_run h).heads

/-- ... and the request that is read, dispatched or handled inline is the one just numbered -/
theorem C06_current_number (F : Facts) (es : List Ev) (s : St) (h : run F init es = some s) (r : Nat)
    (hp : s.phase = .reading r ∨ s.phase = .gotRequest r ∨ s.phase = .inHandler r) : r = s.reqs :=
  (numbered_run h).cur r hp

/-- Dispatch never waits: at the loop head the next request can be numbered, read and handed
    to its own goroutine whatever the earlier handlers are doing - the guards of `head`, `read`
    and `spawn` mention no handler's status, and these steps leave it untouched. -/
theorem C06_head_enabled (F : Facts) (hinc : F.idIncrementAtHead = true) (s : St) (hp : s.phase = .atHead) :
    ∃ s2, step F s (.head (s.reqs + 1)) = some s2 ∧ s2.phase = .reading (s.reqs + 1) ∧
      s2.running = s.running ∧ s2.finished = s.finished ∧ s2.spawned = s.spawned := by
  -- with the phase written in, the match of `step` computes (`simp [step, hp]` works inside all its branches first)
  unfold step; rw [hp]; exact ⟨_, if_pos ⟨hinc, rfl⟩, rfl, rfl, rfl, rfl⟩

theorem C06_read_enabled (F : Facts) (s : St) (r : Nat) (hp : s.phase = .reading r) :
    ∃ s2, step F s (.read r) = some s2 ∧ s2.phase = .gotRequest r ∧
      s2.running = s.running ∧ s2.finished = s.finished ∧ s2.spawned = s.spawned := by
  unfold step; rw [hp]; exact ⟨_, if_pos rfl, rfl, rfl, rfl, rfl⟩

theorem C06_spawn_enabled (F : Facts) (hother : F.other = .goroutine) (s : St) (r : Nat) (hp : s.phase = .gotRequest r) :
    ∃ s2, step F s (.spawn r) = some s2 ∧ s2.phase = .atHead ∧
      s2.running = s.running ∧ s2.finished = s.finished ∧ s2.spawned = s.spawned ++ [r] := by
  unfold step; rw [hp]; exact ⟨_, if_pos ⟨rfl, hother⟩, rfl, rfl, rfl, rfl⟩

/-- hence with handlers 1..k all blocked, request k+1 is still dispatched: from any state at the
    loop head the next `head; read; spawn` is accepted -/
theorem C06_dispatch_nonblocking (F : Facts) (hinc : F.idIncrementAtHead = true) (hother : F.other = .goroutine)
    (s : St) (hp : s.phase = .atHead) :
    ∃ s', run F s [.head (s.reqs + 1), .read (s.reqs + 1), .spawn (s.reqs + 1)] = some s' ∧
      s'.phase = .atHead ∧ s'.running = s.running ∧ s'.finished = s.finished ∧ (s.reqs + 1) ∈ s'.spawned := by
  obtain ⟨s2, h2, p2, a2, b2, -⟩ := C06_head_enabled F hinc s hp
  obtain ⟨s3, h3, p3, a3, b3, -⟩ := C06_read_enabled F s2 _ p2
  obtain ⟨s4, h4, p4, a4, b4, c4⟩ := C06_spawn_enabled F hother s3 _ p3
  refine ⟨s4, by simp [run, h2, h3, h4], p4, by rw [a4, a3, a2], by rw [b4, b3, b2], by rw [c4]; simp⟩

theorem C06_current (es : List Ev) (s : St) (h : run Gldap.Generated.connFacts init es = some s) :
    es.filterMap headNo = List.range' 1 s.reqs := C06_ids_sequential _ es s h

theorem C06_current_dispatch :
    Gldap.Generated.connFacts.idIncrementAtHead = true ∧ Gldap.Generated.connFacts.other = .goroutine ∧
    Gldap.Generated.connFacts.startTLS = .inline ∧ Gldap.Generated.connFacts.unbind = .inlineThenReturn := by decide

/-- why the dispatch kind matters: with inline dispatch of ordinary requests the next read is
    not enabled while the handler runs -/
theorem C06_counterexample_inline :
    (run { goodFacts with other := .inline } init [.start, .head 1, .read 1, .spawn 1]) = none := by decide

/-- non-vacuity: three pipelined requests, the first handler still running when the third is dispatched -/
example : (run goodFacts init [.start, .head 1, .read 1, .spawn 1, .reqStart 1, .head 2, .read 2, .spawn 2,
    .head 3, .read 3, .spawn 3, .reqStart 3, .reqDone 3]).map (fun s => (s.reqs, s.running)) = some (3, [1]) := by decide

end ConnLoop
