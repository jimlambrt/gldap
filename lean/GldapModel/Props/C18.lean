import GldapModel.Runtime.TlsGate
import GldapModel.Runtime.Run
import GldapModel.Generated.Facts
/-! # C18 - with TLS configured, only clients that satisfy it ever reach a handler (plumbing part) -/
namespace TlsGate

def GInv (beh : Nat → Bool) (cs : List Conn) : Prop :=
  ∀ x ∈ cs, x.wrapped = true ∧ (x.hsOK = true → beh x.id = true) ∧ (x.dispatched > 0 → beh x.id = true)

theorem upd_forall {P : Conn → Prop} {cs : List Conn} {c : Nat} {f : Conn → Conn} (h : ∀ x ∈ cs, P x)
    (hf : ∀ x ∈ cs, x.id = c → P (f x)) : ∀ y ∈ upd cs c f, P y := by
  intro y hy
  obtain ⟨x, hx, rfl⟩ := List.mem_map.mp hy
  split
  · exact hf x hx ‹_›
  · exact h x hx

theorem isRun (F : Facts) (cfg : Bool) (beh : Nat → Bool) : Run.IsRun (step F cfg beh) (run F cfg beh) :=
  ⟨fun _ => rfl, fun _ _ _ => rfl⟩

theorem ginv_step {F : Facts} (hF : F.wrapBeforeLoop = true ∧ F.acceptOnServerListener = true) {beh : Nat → Bool}
    {cs cs' : List Conn} {e : Ev} (hi : GInv beh cs) (h : step F true beh cs e = some cs') : GInv beh cs' := by
  revert cs'
  fun_cases step F true beh cs e <;> rintro _ ⟨⟩
  · -- `accept`: the new entry is wrapped and has done nothing yet
    intro x hx
    rcases List.mem_append.mp hx with hx | hx
    · exact hi x hx
    · cases List.mem_singleton.mp hx; simp [hF.1, hF.2]
  · -- `handshake c ok`: the guard has `ok = beh c`
    rename_i hc
    exact upd_forall hi fun x hx hid => ⟨(hi x hx).1, fun hok => by rw [hid, ← hc.2.2.2]; exact hok, (hi x hx).2.2⟩
  · -- `dispatch c`: the entry `y` found for `c` is wrapped like every entry, so by the guard its handshake succeeded
    rename_i c y hfy hc
    have hy := hi y (List.mem_of_find?_eq_some hfy)
    have hyid : y.id = c := by simpa using List.find?_some hfy
    exact upd_forall hi fun x hx hid => ⟨(hi x hx).1, (hi x hx).2.1, fun _ => by rw [hid, ← hyid]; exact hy.2.1 (hc.2 hy.1)⟩
  · -- `close`
    exact upd_forall hi fun x hx _ => hi x hx

theorem ginv_run {F : Facts} (hF : F.wrapBeforeLoop = true ∧ F.acceptOnServerListener = true) {beh : Nat → Bool}
    {cs cs' : List Conn} {es : List Ev} (hi : GInv beh cs) (h : run F true beh cs es = some cs') : GInv beh cs' :=
  (isRun F true beh).invariant (ginv_step hF) h hi

/-- When Run is given a TLS configuration and the listener is wrapped before the accept loop which
    accepts on it, then in every accepted history - any number of connections, any order of
    events - a handler is dispatched only for a connection whose client completed a handshake
    satisfying the configuration; plaintext senders, abandoned or failed handshakes, missing or
    foreign certificates (all `beh c = false`) never reach a handler. -/
theorem C18_gate (F : Facts) (hF : F.wrapBeforeLoop = true ∧ F.acceptOnServerListener = true) (beh : Nat → Bool)
    (es : List Ev) (cs : List Conn) (h : run F true beh [] es = some cs) :
    ∀ x ∈ cs, x.dispatched > 0 → beh x.id = true :=
  fun x hx => (ginv_run hF (cs := []) (fun _ hx => nomatch hx) h x hx).2.2

/-- an offender's failure ends only its own connection: other connections' entries are unchanged by
    its events -/
theorem C18_only_own_connection (F : Facts) (cfg : Bool) (beh : Nat → Bool) (cs cs' : List Conn) (c : Nat) (e : Ev)
    (he : e = .handshake c false ∨ e = .close c) (h : step F cfg beh cs e = some cs') :
    ∀ x ∈ cs, x.id ≠ c → x ∈ cs' := by
  intro x hx hne
  have keep : ∀ f, x ∈ upd cs c f := fun f => List.mem_map.mpr ⟨x, hx, by simp [hne]⟩
  rcases he with rfl | rfl <;> simp only [step] at h
  · split at h
    · split at h <;> cases h
      exact keep _
    · cases h
  · cases h
    exact keep _

/-- without the wrap a plaintext client reaches a handler -/
theorem C18_counterexample :
    (run { goodFacts with wrapBeforeLoop := false } true (fun _ => false) [] [.accept 1, .dispatch 1]).map
      (fun cs => cs.map (·.dispatched)) = some [1] := by decide

theorem C18_current_facts : Gldap.Generated.tlsFacts = goodFacts := by decide

theorem C18_current (beh : Nat → Bool) (es : List Ev) (cs : List Conn)
    (h : run Gldap.Generated.tlsFacts true beh [] es = some cs) : ∀ x ∈ cs, x.dispatched > 0 → beh x.id = true := by
  rw [C18_current_facts] at h
  exact C18_gate goodFacts ⟨rfl, rfl⟩ beh es cs h

end TlsGate
