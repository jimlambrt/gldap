import GldapModel.Proofs.NoPanic
import GldapModel.Generated.Facts
/-! # C02 - no byte sequence from a client makes request decoding panic

`serveFrame` is conn.go's readPacket + readRequest on one frame: the asn1-ber reader model,
`basicValidation`, `newMessage`. Outcomes are `ok msg` (delivered), `err` (ordinary error
path) or `panic`. The theorems quantify over every byte string / every tree, every
behaviour of the third-party validators and of `DecompileFilter` (`env`). -/
namespace Gldap
open Ber

/-- with the decode-path guards in place, no tree makes `newMessage` panic -/
theorem C02_total (env : Env) (g : Guards) (hg : g.decodeAll = true) (n : Node) :
    newMessage env g n ≠ .panic := np_newMessage hg n

/-- ... hence no byte string does: each frame is delivered or rejected -/
theorem C02_frames (env : Env) (g : Guards) (hg : g.decodeAll = true) (bs : Bytes) :
    (∃ m, serveFrame env g bs = .ok m) ∨ serveFrame env g bs = .err := by
  refine np_iff.1 ?_
  fun_cases serveFrame env g bs <;> simp [np_newMessage hg]

/-- the statement for the source as it is now: the guard flags regenerated from /repo -/
theorem C02_current (env : Env) (bs : Bytes) :
    (∃ m, serveFrame env Generated.guards bs = .ok m) ∨ serveFrame env Generated.guards bs = .err :=
  C02_frames env Generated.guards (by decide) bs

/-! ## Witnesses: every guard is needed. If a site loses its check, this tree panics. -/

def octet (s : Bytes) : Node := .prim 0 4 s
def seqN (ks : List Node) : Node := .cons 0 16 ks

/-- a bind request carrying one control -/
def bindWith (ctrl : Node) : Node :=
  seqN [.prim 0 2 [1], .cons 1 0 [.prim 0 2 [3], octet [], .prim 2 0 []], .cons 2 0 [ctrl]]

def witBindV2 : Node := seqN [.prim 0 2 [1], .cons 1 0 [.prim 0 2 [2], octet [], .prim 2 0 []]]
def witCtrlType : Node := seqN [.prim 0 2 [1]]
def witCtrlCrit : Node := seqN [octet [49], octet [], octet []]
def witCtrlValue : Node := seqN [octet [49], .prim 0 2 [1]]
def witPagingShape : Node := seqN [octet Generated.ControlTypePaging, .cons 0 16 [seqN [.prim 0 2 [5]]]]
def witPagingSize : Node := seqN [octet Generated.ControlTypePaging, .cons 0 16 [seqN [octet [], octet []]]]
def witBeheraWarn : Node := seqN [octet Generated.ControlTypeBeheraPasswordPolicy, .cons 0 16 [seqN [.cons 2 0 []]]]

def envNone : Env := { ext := fun _ _ => true, decompile := fun _ => none }

theorem C02_witness_bindVersion : newMessage envNone noGuards witBindV2 = .panic := by decide
theorem C02_witness_ctrlType : newMessage envNone noGuards (bindWith witCtrlType) = .panic := by decide
theorem C02_witness_ctrlCrit : newMessage envNone noGuards (bindWith witCtrlCrit) = .panic := by decide
theorem C02_witness_ctrlValue : newMessage envNone noGuards (bindWith witCtrlValue) = .panic := by decide
theorem C02_witness_pagingShape : newMessage envNone noGuards (bindWith witPagingShape) = .panic := by decide
theorem C02_witness_pagingSize : newMessage envNone noGuards (bindWith witPagingSize) = .panic := by decide
theorem C02_witness_beheraWarn : newMessage envNone noGuards (bindWith witBeheraWarn) = .panic := by decide

/-- non-vacuity: the guarded decoder rejects the same trees through the error path and still
    delivers a well-formed bind -/
example : newMessage envNone allGuards (bindWith witPagingShape) = .err := by decide
example : newMessage envNone allGuards (bindWith (seqN [octet [49]])) =
    .ok (.bind 1 [] [] [.str [49] false []]) := by decide

end Gldap
