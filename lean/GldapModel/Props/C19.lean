import GldapModel.Directory.Bind
/-! # C19 - test directory: a bind succeeds only with the right credentials -/
namespace Directory
open Ber Gldap Gldap.Generated

theorem userAccepts_iff (dn pw : Bytes) (u : Entry) :
    userAccepts dn pw u = true ↔ u.dn = dn ∧ (getAttributeValues u passwordAttr).head? = some pw := by
  unfold userAccepts
  cases getAttributeValues u passwordAttr <;> simp

/-- success iff (empty password and anonymous binds allowed) or the DN is exactly the DN of a
    user entry whose first password value equals the password - for EVERY user list (DNs that are
    prefixes of one another, duplicates, no password attribute, empty passwords), DN, password
    and setting of AllowAnonymousBind -/
theorem C19_bind_iff (users : List Entry) (allowAnon : Bool) (dn pw : Bytes) :
    handleBind users allowAnon dn pw = 0 ↔
      (pw = [] ∧ allowAnon = true) ∨
      ∃ u ∈ users, u.dn = dn ∧ (getAttributeValues u passwordAttr).head? = some pw := by
  have h1 : (pw.isEmpty && allowAnon) = true ↔ pw = [] ∧ allowAnon = true := by simp
  have h2 : users.any (userAccepts dn pw) = true ↔
      ∃ u ∈ users, u.dn = dn ∧ (getAttributeValues u passwordAttr).head? = some pw := by
    simp only [List.any_eq_true, userAccepts_iff]
  -- the right-hand side is the pair of tests `handleBind` branches on
  rw [← h1, ← h2]
  unfold handleBind
  cases (pw.isEmpty && allowAnon) <;> cases users.any (userAccepts dn pw) <;> decide

/-- every other bind returns invalidCredentials -/
theorem C19_otherwise_invalid (users : List Entry) (allowAnon : Bool) (dn pw : Bytes) :
    handleBind users allowAnon dn pw = 0 ∨ handleBind users allowAnon dn pw = 49 := by
  unfold handleBind
  cases (pw.isEmpty && allowAnon) <;> cases users.any (userAccepts dn pw) <;> decide

/-- a DN that is only a prefix / extension of a user's DN never binds -/
example : handleBind [⟨[99, 110, 61, 97], [⟨passwordAttr, [[112]], [[112]]⟩]⟩] false [99, 110, 61, 97, 98] [112] = 49 := by decide
example : handleBind [⟨[99, 110, 61, 97], [⟨passwordAttr, [[112]], [[112]]⟩]⟩] false [99, 110, 61, 97] [112] = 0 := by decide
/-- an empty password only binds when anonymous binds are allowed or the stored password is empty -/
example : handleBind [⟨[99], [⟨passwordAttr, [[112]], [[112]]⟩]⟩] false [99] [] = 49 := by decide

end Directory
