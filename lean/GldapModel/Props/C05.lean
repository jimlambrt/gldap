import GldapModel.Proofs.WriterInv
import GldapModel.Generated.Facts
/-! # C05 - concurrent handlers never tear, merge, lose or duplicate response frames -/
namespace Writer
open Ber

/-- the frames of writer `w` completed so far, in completion order -/
def doneOf (s : WS) (w : Nat) : List Bytes := (s.done.filter (·.1 = w)).map (·.2)

/-- All writers, all frame sizes, all spills, all schedules: whenever no writer is inside
    `Write`, the bytes on the wire are exactly the concatenation of the completed frames in
    completion order, and each writer's completed frames are a prefix, in order, of what it
    set out to write (nothing lost, duplicated or reordered). -/
theorem C05_whole_frames' (seq : List WOp) (hseq : seq = good) (frames : Nat → List Bytes)
    (ls : List (Nat × Nat)) (s : WS) (hr : run seq (init frames) ls = some s) (hfree : s.mutex = none) :
    s.wire = flat s.done ∧ ∀ w, doneOf s w ++ s.todo w = frames w := by
  subst hseq
  exact C05_whole_frames frames ls s hr hfree

/-- at quiescence every writer's frames all arrived, each exactly once, in its own order -/
theorem C05_quiescent (frames : Nat → List Bytes) (ls : List (Nat × Nat)) (s : WS)
    (hr : run good (init frames) ls = some s) (hfree : s.mutex = none) (hdone : ∀ w, s.todo w = []) :
    s.wire = flat s.done ∧ ∀ w, doneOf s w = frames w := by
  obtain ⟨h1, h2⟩ := C05_whole_frames frames ls s hr hfree
  exact ⟨h1, fun w => by simpa [doneOf, hdone w] using h2 w⟩

/-- ... and the client's incremental reader splits the stream into exactly those messages:
    if every frame written is the serialisation of a well-formed LDAPMessage tree, reading
    the wire yields the completed messages, whole and in completion order -/
theorem C05_client_view (ext : Nat → Bytes → Bool) (frames : Nat → List Bytes) (ls : List (Nat × Nat)) (s : WS)
    (hr : run good (init frames) ls = some s) (hfree : s.mutex = none)
    (msgs : List Node) (hmsgs : s.done.map (·.2) = msgs.map ser) (hw : ∀ n ∈ msgs, n.WF ext) :
    readAll ext (msgs.length + 1) s.wire = some msgs := by
  obtain ⟨h1, _⟩ := C05_whole_frames frames ls s hr hfree
  rw [h1, flat, hmsgs, ← serAll_eq_flatten]
  exact readAll_serAll ext msgs hw

/-- the statement for the source as it is now: the order extracted from response.go -/
theorem C05_current (frames : Nat → List Bytes) (ls : List (Nat × Nat)) (s : WS)
    (hr : run Gldap.Generated.writeSeq (init frames) ls = some s) (hfree : s.mutex = none) :
    s.wire = flat s.done ∧ ∀ w, doneOf s w ++ s.todo w = frames w :=
  C05_whole_frames' Gldap.Generated.writeSeq (by decide) frames ls s hr hfree

theorem C05_current_shared_lock : Gldap.Generated.writerLockPerConn = true := by decide

/-! ### why the discipline is needed: the same model exhibits the failures -/

def twoFrames : Nat → List Bytes := fun w => if w = 0 then [[1]] else if w = 1 then [[2]] else []

def broken (s : WS) : Bool :=
  s.mutex.isNone && (s.todo 0).isEmpty && (s.todo 1).isEmpty && (s.wire ++ s.buf != flat s.done)

/-- without the lock two interleaved writes lose a frame -/
theorem C05_counterexample_nolock :
    (run [.write, .flush] (init twoFrames) [(1, 9), (0, 0), (1, 9), (0, 0), (1, 9), (0, 0), (1, 9), (0, 0)]).map broken
      = some true := by decide

/-- unlocking before the flush lets another writer's bytes be flushed twice -/
theorem C05_counterexample_unlock_before_flush :
    (run [.lock, .write, .unlock, .flush] (init twoFrames)
      [(1, 9), (1, 0), (1, 9), (1, 0), (1, 9), (0, 0), (0, 9), (0, 0), (1, 9), (0, 0), (0, 9), (0, 0)]).map broken
      = some true := by decide

/-- non-vacuity: a complete good run of two writers -/
example : (run good (init twoFrames)
    [(0, 0), (0, 0), (0, 0), (0, 0), (0, 0), (0, 0), (1, 0), (1, 0), (1, 5), (1, 0), (1, 0), (1, 0)]).map
      (fun s => (s.mutex, s.wire, s.done)) = some (none, [1, 2], [(0, [1]), (1, [2])]) := by decide

end Writer
