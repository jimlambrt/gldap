import GldapModel.Props.Filter
import GldapModel.Props.Session
import GldapModel.Props.StoreSession
import GldapModel.Props.C03
/-! # The filter model composed with routing, the session and the test directory

With `DecompileFilter` inside the model (`Gldap/Filter.lean`) the end-to-end statements
need no hypothesis about what go-ldap returns: for conversations whose searches carry the RFC 4511
encoding of a filter tree, the decode environment is `currentEnv` (the current source) and the
filter string the handler, the route criteria and the test directory see is `Filter.render`. -/
namespace Gldap
open Ber Spec Gldap.Generated Session

/-- the filter string the current source delivers for a request (searches only) -/
def currentDec : CReq → Bytes
  | .search _ _ _ _ _ _ _ f _ _ => (Filter.decompile filterDNAttrsDecoded f).getD []
  | _ => []

/-- a search that carries the encoding of the filter tree `fl` -/
def carries (tt : UInt8) (r : CReq) : Prop :=
  ∀ id base sc de sz tm ty f attrs ctls, r = .search id base sc de sz tm ty f attrs ctls →
    ∃ fl : Filter.Filter, f = Filter.encode tt fl

/-- every well-formed request whose filter (if it is a search) encodes a filter tree can be sent
    to the current source: nothing about go-ldap is assumed -/
theorem sendable_current (ext : Nat → Bytes → Bool) (tt : UInt8) (htt : tt ≠ 0) (r : CReq) (hw : r.WF)
    (hb : (clientEncode tt r).WF ext) (hc : carries tt r) : Sendable (currentEnv ext) tt currentDec r := by
  refine ⟨hw, hb, ?_⟩
  intro id base sc de sz tm ty f attrs ctls h
  obtain ⟨fl, hfl⟩ := hc id base sc de sz tm ty f attrs ctls h
  subst h; subst hfl
  simp [currentEnv, currentDec, filterDNAttrsDecoded_current, Filter.decompile_encode tt htt fl]

/-- C01 / C03 / C04 end to end with the filter inside: a client that sends any list of well-formed
    non-Unbind requests (searches carrying encoded filter trees), followed by anything, receives
    request by request exactly the frames of the first matching route's script / the default route /
    the refusal - for the decode path, guards and refusal table of the current source -/
theorem session_requests_filter (ext : Nat → Bytes → Bool) (cfg : Cfg) (tt : UInt8) (htt : tt ≠ 0)
    (rs : List CReq) (hw : ∀ r ∈ rs, r.WF) (hb : ∀ r ∈ rs, (clientEncode tt r).WF ext) (hc : ∀ r ∈ rs, carries tt r)
    (hu : ∀ r ∈ rs, r.isUnbind = false) (fuel : Nat) (tail : Bytes) :
    session (currentEnv ext) Generated.refusalTable Generated.guards cfg (rs.length + fuel) (wire tt rs ++ tail) =
      (rs.flatMap (fun r => respond Generated.refusalTable Generated.guards cfg (expected (currentDec r) r)) ++
         (session (currentEnv ext) Generated.refusalTable Generated.guards cfg fuel tail).1,
       (session (currentEnv ext) Generated.refusalTable Generated.guards cfg fuel tail).2) :=
  session_requests (currentEnv ext) Generated.refusalTable Generated.guards cfg tt htt currentDec rs
    (fun r hr => sendable_current ext tt htt r (hw r hr) (hb r hr) (hc r hr)) hu fuel tail

/-- C03's filter criterion, in terms of the client's filter tree: a search route registered
    `WithFilter(c)` (no base DN, no scope) matches the decoded search iff `c` is empty or equals the
    RFC 4515 string of the tree up to ASCII case -/
theorem C03_filter_criterion (c : Bytes) (id : Int) (base : Bytes) (sc de sz tm : Int) (ty : Bool)
    (fl : Filter.Filter) (attrs : List Bytes) (ctls : List Control) :
    matchesRoute (.search [] c 0) (.search id base sc de sz tm ty (Filter.render fl) attrs ctls) =
      (c.isEmpty || equalFold (Filter.render fl) c) := by
  simp [matchesRoute]

/-- C20 at the level of bytes with nothing assumed about go-ldap: over a clean pool, an add of an absent DN
    followed by a search with that DN as base - whatever filter tree `fl` the search carries - writes AddResponse
    success, the one entry, SearchResultDone success, and goes on over the grown store -/
theorem C20_wire_add_then_read_filter (ext : Nat → Bytes → Bool) (tt : UInt8) (htt : tt ≠ 0)
    (pool : List Bytes) (hp : Directory.Pool pool) (d : Directory.Dir) (hg : Directory.Good pool d.store) (dn : Bytes) (hd : dn ∈ pool)
    (habs : Directory.hasDN d.store.users dn = false) (habsg : Directory.hasDN d.store.groups dn = false)
    (hroute : Directory.routeSearch d.store dn = .generic) (hsub : Directory.containsBytes dn d.store.userDN = true)
    (id1 id2 : Int) (attrs : List CAttr) (c1 c2 : List CCtl)
    (sc de sz tm : Int) (ty : Bool) (fl : Filter.Filter) (want : List Bytes)
    (hw1 : (CReq.add id1 dn attrs c1).WF) (hb1 : (clientEncode tt (.add id1 dn attrs c1)).WF ext)
    (hw2 : (CReq.search id2 dn sc de sz tm ty (Filter.encode tt fl) want c2).WF)
    (hb2 : (clientEncode tt (.search id2 dn sc de sz tm ty (Filter.encode tt fl) want c2)).WF ext)
    (fuel : Nat) (rest : Bytes) :
    let e := Directory.mkEntry dn ((attrs.map expectedAttr).map Directory.attrOf)
    let d' : Directory.Dir := { d with store := { d.store with users := d.store.users ++ [e] } }
    Directory.dirSession (currentEnv ext) Generated.refusalTable Generated.guards d (fuel + 2)
        (ser (clientEncode tt (.add id1 dn attrs c1)) ++
          (ser (clientEncode tt (.search id2 dn sc de sz tm ty (Filter.encode tt fl) want c2)) ++ rest)) =
      ([responseBytes (Directory.addResp d.store id1 dn), responseBytes (Directory.entryResp id2 e),
        responseBytes (Directory.doneResp id2 d.dctls true)] ++
         (Directory.dirSession (currentEnv ext) Generated.refusalTable Generated.guards d' fuel rest).1,
       (Directory.dirSession (currentEnv ext) Generated.refusalTable Generated.guards d' fuel rest).2) ∧
    (Directory.addResp d.store id1 dn).code = 0 :=
  Directory.C20_wire_add_then_read_current (currentEnv ext) tt htt pool hp d hg dn hd habs habsg hroute hsub
    currentDec id1 id2 attrs c1 c2 sc de sz tm ty (Filter.encode tt fl) want
    (sendable_current ext tt htt _ hw1 hb1 fun _ _ _ _ _ _ _ _ _ _ h => nomatch h)
    (sendable_current ext tt htt _ hw2 hb2 fun _ _ _ _ _ _ _ _ _ _ h => ⟨fl, (CReq.search.inj h).2.2.2.2.2.2.2.1.symm⟩)
    fuel rest

end Gldap
