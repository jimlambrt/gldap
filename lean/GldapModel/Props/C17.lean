import GldapModel.Proofs.ServerGeneric
import GldapModel.Generated.Facts
/-! # C17 - Ready is true only while the server is really listening -/
namespace Server

/-- whenever Ready() can be observed true the listening socket has been bound - for every
    schedule of pollers, Run, Stop, and for every value of the other facts -/
theorem C17_ready (F : Facts) (hF : F.readyOnlyOnSuccess = true) (n : Nat) (ls : List Label) (s : Srv)
    (hr : run F (init n) ls = some s) : s.ready = true → s.lst ≠ .none :=
  (rinv_run hF (rinv_init n) hr).rdy

theorem C17_ready_good (n : Nat) (ls : List Label) (s : Srv) (hr : run goodFacts (init n) ls = some s) :
    s.ready = true → s.lst ≠ .none :=
  C17_ready goodFacts rfl n ls s hr

/-- what `runListen` writes to `ready` is final, from any state and for every value of the facts: the step leaves
    `notStarted`, Run never comes back to it, and no other step writes `ready` -/
theorem ready_after_listen {F : Facts} {s m s' : Srv} {ok : Bool} {post : List Label}
    (hl : step F s (.runListen ok) = some m) (hr : run F m post = some s') :
    s'.ready = (ok || !F.readyOnlyOnSuccess) := by
  cases CoreStep.of_stepCore (show stepCore F s (.runListen ok) = some m from hl) with
  | listen => exact run_started (by cases ok <;> nofun) hr
  | conn _ hc => cases hc

/-- if Run cannot listen it returns an error and Ready never becomes true -/
theorem C17_listen_fails (F : Facts) (hF : F.readyOnlyOnSuccess = true) (n : Nat) (pre post : List Label) (s : Srv)
    (hr : run F (init n) (pre ++ [.runListen false] ++ post) = some s) : s.ready = false := by
  obtain ⟨_, _, _, hl, hpost⟩ := (isRun F).split hr
  simpa [hF] using ready_after_listen hl hpost

/-- the pinned tree set the flag before looking at the error -/
theorem C17_counterexample :
    (run pinnedFacts (init 0) [.runListen false]).map (fun s => (s.ready, s.lst)) = some (true, .none) := by decide

theorem C17_current (n : Nat) (ls : List Label) (s : Srv) (hr : run Gldap.Generated.serverFacts (init n) ls = some s) :
    s.ready = true → s.lst ≠ .none := C17_ready _ (by decide) n ls s hr

end Server
