import GldapModel.Gldap.Addr
/-! # C17, the address half: `validateAddrPort` never rewrites the port

Whatever the three library verdicts are: an address without a colon or with nothing behind
its last colon is refused; and an accepted address reaches `net.Listen` with exactly the port
text the caller wrote behind the last colon - so whether that port is well-formed (a number in
0..65535) is decided by `net.Listen`, on the caller's own text, and a malformed one makes `Run`
fail before Ready is ever set (C17_listen_fails). -/
namespace Gldap.Addr
open Ber

/-- `lastIdx b a` finds the rightmost `b`: nothing equal to `b` lies behind it, and `none` means there is no `b` -/
theorem lastIdx_spec (b : UInt8) (a : Bytes) :
    match lastIdx b a with
    | some i => a = a.take i ++ b :: a.drop (i + 1) ∧ b ∉ a.drop (i + 1)
    | none => b ∉ a := by
  induction a with
  | nil => simp [lastIdx]
  | cons x xs ih =>
    cases hl : lastIdx b xs <;> simp only [lastIdx, hl] at ih ⊢
    · by_cases hx : x = b
      · subst hx; simpa using ih
      · simpa [hx, ih] using Ne.symm hx
    · exact ⟨congrArg (x :: ·) ih.1, ih.2⟩

theorem lastIdx_split (b : UInt8) (a : Bytes) (i : Nat) (h : lastIdx b a = some i) :
    a = a.take i ++ b :: a.drop (i + 1) ∧ b ∉ a.drop (i + 1) := by
  simpa [h] using lastIdx_spec b a

theorem lastIdx_none (b : UInt8) (a : Bytes) (h : lastIdx b a = none) : b ∉ a := by
  simpa [h] using lastIdx_spec b a

theorem lastIdx_eq_none {b : UInt8} {a : Bytes} (h : b ∉ a) : lastIdx b a = none := by
  cases hl : lastIdx b a with
  | none => rfl
  | some i => exact absurd ((lastIdx_split b a i hl).1 ▸ by simp) h

/-- the rightmost `b` of `pre ++ b :: post` is the one shown, if `post` has none -/
theorem lastIdx_append_cons {b : UInt8} {post : Bytes} (h : b ∉ post) (pre : Bytes) :
    lastIdx b (pre ++ b :: post) = some pre.length := by
  induction pre with
  | nil => simp [lastIdx, lastIdx_eq_none h]
  | cons y ys ih => simp [lastIdx, ih]

/-- an address with no colon, or with nothing behind the last one, is refused -/
theorem validate_needs_port (env : AddrEnv) (a : Bytes) (out : Bytes) (h : validateAddrPort env a = some out) :
    ∃ i, lastIdx colon a = some i ∧ a.drop (i + 1) ≠ [] := by
  unfold validateAddrPort at h
  cases hl : lastIdx colon a with
  | none => simp [hl] at h
  | some i =>
    refine ⟨i, rfl, ?_⟩
    intro he
    simp [hl, he] at h

/-- The only shapes of an accepted address: the text behind the last colon is kept as it is; the
    host in front of it is dropped (it was empty), kept, or put in brackets. -/
theorem validate_some (env : AddrEnv) (a : Bytes) (out : Bytes) (h : validateAddrPort env a = some out) :
    ∃ i, lastIdx colon a = some i ∧
      (out = colon :: a.drop (i + 1) ∨ out = a.take i ++ colon :: a.drop (i + 1) ∨
       out = lbr :: a.take i ++ rbr :: colon :: a.drop (i + 1)) := by
  revert out
  -- six branches accept; with `host` and `port` unfolded each shows `out` in one of the three shapes
  fun_cases validateAddrPort env a <;> rintro _ ⟨⟩ <;> exact ⟨_, ‹_›, by simp +zetaDelta⟩

/-- **The port is never rewritten.** An accepted address is `host' ++ ":" ++ port` where `port`
    is exactly what the caller wrote behind the last colon (and contains no colon itself). -/
theorem validate_port_preserved (env : AddrEnv) (a : Bytes) (out : Bytes) (h : validateAddrPort env a = some out) :
    ∃ i host', lastIdx colon a = some i ∧ out = host' ++ colon :: a.drop (i + 1) ∧ colon ∉ a.drop (i + 1) := by
  obtain ⟨i, hi, ho⟩ := validate_some env a out h
  have hc := (lastIdx_split _ _ _ hi).2
  rcases ho with rfl | rfl | rfl
  · exact ⟨i, [], hi, rfl, hc⟩
  · exact ⟨i, _, hi, rfl, hc⟩
  · exact ⟨i, lbr :: a.take i ++ [rbr], hi, by simp, hc⟩

/-- the output's own last colon is the one in front of that port: `net.Listen` splits it there -/
theorem validate_listen_sees_port (env : AddrEnv) (a : Bytes) (out : Bytes) (h : validateAddrPort env a = some out) :
    ∃ i j, lastIdx colon a = some i ∧ lastIdx colon out = some j ∧ out.drop (j + 1) = a.drop (i + 1) := by
  obtain ⟨i, host', hi, rfl, hc⟩ := validate_port_preserved env a out h
  exact ⟨i, host'.length, hi, lastIdx_append_cons hc host', by simp⟩

example : validateAddrPort ⟨fun _ => true, fun _ => false, fun _ => true⟩ [49, 46, 50, 46, 51, 46, 52, 58, 55, 48, 48, 48, 48] =
    some [49, 46, 50, 46, 51, 46, 52, 58, 55, 48, 48, 48, 48] := by decide   -- "1.2.3.4:70000" stays "1.2.3.4:70000"

end Gldap.Addr
