import GldapModel.Gldap.Response
import GldapModel.Props.C14
/-! # C04 - responses reach the client with the request's message ID and the values set

`packetOf` is the `packet()` of each response type; `Spec.readResponse` is an independent
strict RFC 4511 reader. -/
namespace Gldap
open Ber Spec Gldap.Generated

/-- the application tag belonging to each constructor -/
def RKind.appTag : RKind → Nat
  | .general app => tagOfInt app
  | .bind => 1 | .extended => 24 | .searchDone => 5 | .entry => 4 | .modify => 7

/-- what the client must learn from a response object -/
def viewOfResp (r : Resp) : RView :=
  match r.kind with
  | .entry => .entry r.messageID r.entryDN (r.attrs.map fun a => (a.name, a.values))
  | k => .result r.messageID k.appTag r.code r.matched r.diag
      (if k = .bind ∨ k = .searchDone then r.controls.map viewOf else [])

def Resp.WF (r : Resp) : Prop :=
  Int64 r.messageID ∧ Int64 r.code ∧ (∀ c ∈ r.controls, c.WF)

theorem octetContent_map (vs : List Bytes) : (vs.map octetNode).mapM octetContent = some vs := by
  induction vs with
  | nil => rfl
  | cons v vs ih => simp [List.mapM_cons, octetNode, octetContent, ih]

theorem readAttr_encode (a : EAttr) : readAttr (encodeEAttr a) = some (a.name, a.values) := by
  simp only [encodeEAttr, seqNode, octetNode, readAttr, octetContent_map, Option.map_some]

theorem readAttrs_encode (as : List EAttr) :
    (as.map encodeEAttr).mapM readAttr = some (as.map fun a => (a.name, a.values)) := by
  induction as with
  | nil => rfl
  | cons a as ih => simp [List.mapM_cons, readAttr_encode, ih]

theorem readControls_encode (ext) (cs : List Control) (hw : ∀ c ∈ cs, c.WF) :
    (cs.map encodeControl).mapM (readCtl ext) = some (cs.map viewOf) := by
  induction cs with
  | nil => rfl
  | cons c cs ih => simp [List.mapM_cons, C14_client ext c (hw c (by simp)), ih fun c hc => hw c (by simp [hc])]

/-- every result-carrying packet, whatever its application tag: `cs` are the controls `packet()` attaches
    (none for the types without `SetControls`) -/
theorem readResponse_result (ext : Nat → Bytes → Bool) (r : Resp) (hid : Int64 r.messageID) (hcode : Int64 r.code)
    (tag : Nat) (cs : List Control) (hcs : ∀ c ∈ cs, c.WF) :
    readResponse ext (seqNode (withControls [.prim 0 2 (encodeInteger r.messageID), resultNode tag r] cs)) =
      some (.result r.messageID tag r.code r.matched r.diag (cs.map viewOf)) := by
  have pid := parseInt64_encodeInteger r.messageID hid
  have pc := parseInt64_encodeInteger r.code hcode
  cases cs with
  | nil =>
    show readResponse ext (.cons 0 16 [.prim 0 2 (encodeInteger r.messageID),
      .cons 1 tag [.prim 0 10 (encodeInteger r.code), .prim 0 4 r.matched, .prim 0 4 r.diag]]) = _
    simp [readResponse, pid, pc, readControls]
  | cons c cs =>
    show readResponse ext (.cons 0 16 [.prim 0 2 (encodeInteger r.messageID),
      .cons 1 tag [.prim 0 10 (encodeInteger r.code), .prim 0 4 r.matched, .prim 0 4 r.diag],
      .cons 2 0 ((c :: cs).map encodeControl)]) = _
    simp only [readResponse, readControls, pid, pc, readControls_encode ext (c :: cs) hcs]

/-- the result-carrying response types: message id, tag of the constructor, code, matched DN,
    diagnostic message and (Bind / SearchDone) controls arrive exactly as set -/
theorem C04_wire_tree (ext : Nat → Bytes → Bool) (r : Resp) (hw : r.WF) :
    readResponse ext (packetOf r) = some (viewOfResp r) := by
  obtain ⟨hid, hcode, hctl⟩ := hw
  cases hk : r.kind with
  | entry =>
    simp only [packetOf, hk, viewOfResp, seqNode, octetNode, readResponse, parseInt64_encodeInteger r.messageID hid,
      readAttrs_encode, ApplicationSearchResultEntry]
  | extended | general app | modify =>
    simp only [packetOf, hk, viewOfResp]
    exact readResponse_result ext r hid hcode _ [] nofun
  | bind | searchDone =>
    simp only [packetOf, hk, viewOfResp]
    exact readResponse_result ext r hid hcode _ r.controls hctl

/-- ... and from the bytes `ResponseWriter.Write` sends, whatever follows them on the stream:
    one well-formed LDAPMessage, then the untouched rest -/
theorem C04_wire (ext : Nat → Bytes → Bool) (r : Resp) (hw : r.WF) (hber : (packetOf r).WF ext) (rest : Bytes) :
    (readPacket ext (responseBytes r ++ rest)).map (fun p => (readResponse ext p.1, p.2)) =
      some (some (viewOfResp r), rest) := by
  simp [responseBytes, readPacket_ser ext _ rest hber, C04_wire_tree ext r hw]

/-! ### the values are the ones set: constructors, option order, setters -/

theorem toInt16_id (c : Int) (h : 0 ≤ c ∧ c < 32768) : toInt16 c = c := by
  unfold toInt16; simp only; split <;> omega

/-- codes beyond int16 are altered (why the property's quantifier stops at 32767) -/
theorem toInt16_wraps : toInt16 40000 = -25536 := by decide

/-- later options override earlier ones: the last option is applied to what the others gave -/
theorem getResponseOpts_snoc (opts : List ROpt) (o : ROpt) :
    getResponseOpts (opts ++ [o]) = applyROpt (getResponseOpts opts) o := by
  simp [getResponseOpts, List.foldl_append]

theorem opts_last_code (opts : List ROpt) (c : Int) : (getResponseOpts (opts ++ [.code c])).code = some c := by
  rw [getResponseOpts_snoc]; rfl
theorem opts_last_diag (opts : List ROpt) (s : Bytes) : (getResponseOpts (opts ++ [.diag s])).diag = s := by
  rw [getResponseOpts_snoc]; rfl
theorem opts_last_matched (opts : List ROpt) (s : Bytes) : (getResponseOpts (opts ++ [.matched s])).matched = s := by
  rw [getResponseOpts_snoc]; rfl
theorem opts_last_appCode (opts : List ROpt) (c : Int) : (getResponseOpts (opts ++ [.appCode c])).appCode = some c := by
  rw [getResponseOpts_snoc]; rfl

/-- an option of another kind does not disturb a field -/
theorem opts_code_frame (opts : List ROpt) (o : ROpt) (h : ∀ c, o ≠ .code c) :
    (getResponseOpts (opts ++ [o])).code = (getResponseOpts opts).code := by
  rw [getResponseOpts_snoc]
  cases o with
  | code c => exact absurd rfl (h c)
  | _ => rfl

/-- what no single setter changes, no sequence of setters changes -/
theorem applySets_inv {β} (φ : Resp → β) (h : ∀ r s, φ (applySet r s) = φ r) (r : Resp) (ss : List RSet) :
    φ (applySets r ss) = φ r := by
  induction ss generalizing r with
  | nil => rfl
  | cons s ss ih => exact (ih _).trans (h r s)

theorem applySets_messageID (r : Resp) (ss : List RSet) : (applySets r ss).messageID = r.messageID :=
  applySets_inv (·.messageID) (fun r s => by cases s <;> simp only [applySet] <;> split <;> rfl) r ss

theorem applySets_kind (r : Resp) (ss : List RSet) : (applySets r ss).kind = r.kind :=
  applySets_inv (·.kind) (fun r s => by cases s <;> simp only [applySet] <;> split <;> rfl) r ss

/-- every constructor takes the request's message id, and no setter changes it or the kind -/
theorem C04_message_id (g : Guards) (mid : Int) (dn : Bytes) (opts : List ROpt) (ss : List RSet) :
    (applySets (newResponse mid opts) ss).messageID = mid ∧
    (applySets (newBindResponse mid opts) ss).messageID = mid ∧
    (applySets (newExtendedResponse mid opts) ss).messageID = mid ∧
    (applySets (newSearchDoneResponse mid opts) ss).messageID = mid ∧
    (applySets (newSearchResponseEntry mid dn opts) ss).messageID = mid ∧
    (∀ r, newModifyResponse g mid opts = .ok r → (applySets r ss).messageID = mid) := by
  simp only [applySets_messageID]
  refine ⟨rfl, rfl, rfl, rfl, rfl, fun r => ?_⟩
  -- no code given and defaulted / not defaulted (a panic, not a response) / code given
  fun_cases newModifyResponse g mid opts
  · rintro ⟨rfl⟩; rfl
  · nofun
  · rintro ⟨rfl⟩; rfl

/-- the last setter is applied to what the others gave -/
theorem applySets_snoc (r : Resp) (ss : List RSet) (s : RSet) :
    applySets r (ss ++ [s]) = applySet (applySets r ss) s := by
  simp [applySets, List.foldl_append]

theorem applySets_last_code (r : Resp) (ss : List RSet) (c : Int) :
    (applySets r (ss ++ [.code c])).code = toInt16 c := by
  rw [applySets_snoc]; rfl
theorem applySets_last_diag (r : Resp) (ss : List RSet) (s : Bytes) :
    (applySets r (ss ++ [.diag s])).diag = s := by
  rw [applySets_snoc]; rfl
theorem applySets_last_matched (r : Resp) (ss : List RSet) (s : Bytes) :
    (applySets r (ss ++ [.matched s])).matched = s := by
  rw [applySets_snoc]; rfl

/-- attributes added with AddAttribute appear after the constructor's, in the order added -/
theorem applySets_addAttr (r : Resp) (hk : r.kind = .entry) (ss : List RSet) (n : Bytes) (vs : List Bytes) :
    (applySets r (ss ++ [.addAttr n vs])).attrs = (applySets r ss).attrs ++ [newEntryAttribute n vs] := by
  rw [applySets_snoc, applySet, if_pos ((applySets_kind r ss).trans hk)]

/-- C16: no constructor panics, for any option list, once the nil code is defaulted -/
theorem C04_ctor_total (g : Guards) (hg : g.modifyRespCode = true) (mid : Int) (opts : List ROpt) :
    newModifyResponse g mid opts ≠ .panic := by
  fun_cases newModifyResponse g mid opts
  · nofun
  · exact absurd hg ‹_›       -- the only branch that panics is the one without the default
  · nofun

theorem C04_ctor_witness (mid : Int) : newModifyResponse noGuards mid [] = .panic := by
  simp [newModifyResponse, getResponseOpts, responseDefaults, noGuards]

/-- non-vacuity -/
example : readResponse (fun _ _ => true)
    (packetOf (applySets (newBindResponse 7 [.code 49]) [.matched [100], .controls [.paging 5 [1]]])) =
    some (.result 7 1 49 [100] [] [.paging 5 [1]]) := by decide

end Gldap
