import GldapModel.Props.C01
import GldapModel.Proofs.FilterInj
/-! # C01, the filter: "filter (semantically) ... equal what the client encoded"

In the decode model go-ldap's `DecompileFilter` is a parameter (`Env.decompile`) and C01's
round trip is stated for whatever string it returns. `Gldap/Filter.lean` models the function
itself, as gldap calls it; here the parameter is instantiated with it:

* `C01_filter_roundtrip` - for EVERY filter of RFC 4511's Filter CHOICE (any nesting of and / or /
  not, all seven matches, substrings with any sequence of initial / any / final parts, extensible
  matches with every combination of matching rule, type and dnAttributes; attribute descriptions
  and assertion values arbitrary byte strings) the handler-side string is the filter's RFC 4515
  string with assertion values escaped.
* `C01_current_filter` - the byte-level round trip of C01 with nothing left as a parameter but
  asn1-ber's Real / GeneralizedTime validators.
* `C01_filter_counterexample_prefix` - with the source as it was before commit 374d8a1 (the
  dnAttributes flag not decoded, `Generated.filterDNAttrsDecoded = false`) the RFC 4515 example
  `(cn:dn:=foo)` is not delivered at all: the search request is rejected. -/
namespace Gldap
open Ber Spec Gldap.Generated

/-- the decode environment of the current source: `DecompileFilter` as `searchParmeters` calls it -/
def currentEnv (ext : Nat → Bytes → Bool) : Env :=
  { ext := ext, decompile := Filter.decompile filterDNAttrsDecoded }

/-- go-ldap's `DecompileFilter`, applied to what a client puts on the wire for the filter `f` (with
    any non-zero octet for TRUE), returns the RFC 4515 string of `f` -/
theorem C01_filter_roundtrip (tt : UInt8) (htt : tt ≠ 0) (f : Filter.Filter) :
    Filter.decompile true (Filter.encode tt f) = some (Filter.render f) :=
  Filter.decompile_encode tt htt f

/-- the current source decodes the dnAttributes flag before it decompiles -/
theorem filterDNAttrsDecoded_current : filterDNAttrsDecoded = true := by decide

/-- C01 at byte level for the source as it is now, the filter included: a search whose filter is
    the RFC 4511 encoding of `fl` reaches the handler with `Filter.render fl` -/
theorem C01_current_filter (ext : Nat → Bytes → Bool) (tt : UInt8) (htt : tt ≠ 0) (r : CReq) (hw : r.WF)
    (hber : (clientEncode tt r).WF ext) (fl : Filter.Filter) (rest : Bytes)
    (hfl : ∀ id base sc de sz tm ty f attrs ctls, r = .search id base sc de sz tm ty f attrs ctls →
            f = Filter.encode tt fl) :
    serveFrame (currentEnv ext) Generated.guards (ser (clientEncode tt r) ++ rest) =
      .ok (expected (Filter.render fl) r) := by
  apply C01_current (currentEnv ext) tt htt r hw hber (Filter.render fl) rest
  intro id base sc de sz tm ty f attrs ctls h
  rw [hfl id base sc de sz tm ty f attrs ctls h]
  show Filter.decompile filterDNAttrsDecoded (Filter.encode tt fl) = some (Filter.render fl)
  rw [filterDNAttrsDecoded_current]
  exact Filter.decompile_encode tt htt fl

/-- value fidelity: equality filters on one attribute that reach the handler as the same string were the same
    filter (likewise for >=, <=, ~=: `Filter.ava_render_injective`); `Filter.escape` has the left inverse
    `Filter.unescape`, so no two assertion values are ever confused by the escaping -/
theorem C01_filter_value_faithful (a v v' : Bytes) (h : Filter.render (.eq a v) = Filter.render (.eq a v')) : v = v' :=
  Filter.ava_render_injective a [61] v v' (by simpa [Filter.render] using h)

/-- C01's "filter (semantically)": two filters within RFC 4511 / 4515's grammar (`Filter.WF`: attribute
    descriptions, matching rules and types of letters, digits, `-`, `.`, `;`; substring parts non-empty with
    `initial` only first and `final` only last; matching rule not spelled `dn`) that reach the handler as the same
    string are the same filter - whatever their depth and width. So the string a handler, a route criterion or the
    test directory sees determines the client's filter completely (`Filter.render_injective`; more is true:
    `Filter.render_prefix`, the rendering is a prefix code, which is why lists of sub-filters need no separator). -/
theorem C01_filter_faithful (tt : UInt8) (htt : tt ≠ 0) (f g : Filter.Filter) (wf : Filter.WF f) (wg : Filter.WF g)
    (h : Filter.decompile true (Filter.encode tt f) = Filter.decompile true (Filter.encode tt g)) : f = g := by
  rw [Filter.decompile_encode tt htt f, Filter.decompile_encode tt htt g] at h
  exact Filter.render_injective f g wf wg (Option.some.inj h)

/-- the same on the wire, for the source as it is now: two search requests whose filters are within the grammar and
    which the handler cannot tell apart carried the same filter (and, by `C01_current_filter`, the same everything) -/
theorem C01_search_faithful (ext : Nat → Bytes → Bool) (tt : UInt8) (htt : tt ≠ 0)
    (id id' : Int) (base base' : Bytes) (sc sc' de de' sz sz' tm tm' : Int) (ty ty' : Bool) (f g : Filter.Filter)
    (attrs attrs' : List Bytes) (ctls ctls' : List CCtl) (rest rest' : Bytes)
    (wf : Filter.WF f) (wg : Filter.WF g)
    (hw : (CReq.search id base sc de sz tm ty (Filter.encode tt f) attrs ctls).WF)
    (hw' : (CReq.search id' base' sc' de' sz' tm' ty' (Filter.encode tt g) attrs' ctls').WF)
    (hb : (clientEncode tt (.search id base sc de sz tm ty (Filter.encode tt f) attrs ctls)).WF ext)
    (hb' : (clientEncode tt (.search id' base' sc' de' sz' tm' ty' (Filter.encode tt g) attrs' ctls')).WF ext)
    (h : serveFrame (currentEnv ext) Generated.guards
           (ser (clientEncode tt (.search id base sc de sz tm ty (Filter.encode tt f) attrs ctls)) ++ rest) =
         serveFrame (currentEnv ext) Generated.guards
           (ser (clientEncode tt (.search id' base' sc' de' sz' tm' ty' (Filter.encode tt g) attrs' ctls')) ++ rest')) :
    f = g := by
  have e := fun id base sc de sz tm ty fl attrs ctls rest hw hb =>
    C01_current_filter ext tt htt (.search id base sc de sz tm ty (Filter.encode tt fl) attrs ctls) hw hb fl rest
      fun _ _ _ _ _ _ _ _ _ _ e => (CReq.search.inj e).2.2.2.2.2.2.2.1.symm
  have h := (e _ _ _ _ _ _ _ f _ _ rest hw hb).symm.trans (h.trans (e _ _ _ _ _ _ _ g _ _ rest' hw' hb'))
  exact Filter.render_injective f g wf wg (Msg.search.inj (Outcome.ok.inj h)).2.2.2.2.2.2.2.1

/-- the repair 374d8a1 is conservative: over ALL element trees (hostile ones included), whatever string the pre-fix
    source decompiled a filter element to, the repaired source decompiles it to as well - it only turns errors into
    answers (the `:dn` filters) -/
theorem C01_filter_fix_conservative (n : Node) (s : Bytes) (h : Filter.decompile false n = some s) :
    Filter.decompile true n = some s :=
  Filter.decompile_mono n s h

/-! Each side condition of `Filter.WF` excludes a real collision of the string form (kernel-checked): -/

/-- a matching rule spelled `dn` reads like the dnAttributes flag: `(cn:dn:=v)` -/
theorem filter_wf_needed_rule_dn :
    Filter.render (.ext (some [100, 110]) (some [99, 110]) [118] false) = Filter.render (.ext none (some [99, 110]) [118] true) := by decide
/-- a substring filter without parts reads like an equality match with the empty value: `(cn=)` -/
theorem filter_wf_needed_subs_nonempty : Filter.render (.substr [99, 110] []) = Filter.render (.eq [99, 110] []) := by decide
/-- an empty substring part reads like a missing one: `(cn=*)` is also the presence filter -/
theorem filter_wf_needed_part_nonempty : Filter.render (.substr [99, 110] [.initial []]) = Filter.render (.present [99, 110]) := by decide
/-- an attribute description containing an operator byte reads like a shorter one: `(a=b=c)` -/
theorem filter_wf_needed_plain_attr : Filter.render (.eq [97, 61, 98] [99]) = Filter.render (.eq [97] [98, 61, 99]) := by decide

/-- "(cn:dn:=foo)" -/
def exDnFilter : Filter.Filter := .ext none (some [99, 110]) [102, 111, 111] true

/-- before the repair: the flag was read with `child.Value.(bool)` from an element whose value
    asn1-ber had not decoded, go-ldap recovered the panic and returned an error -/
theorem C01_filter_counterexample_prefix : Filter.decompile false (Filter.encode 255 exDnFilter) = none := by decide

/-- ... and the whole search request was refused (tree level, every guard on) -/
theorem C01_filter_counterexample_prefix_request :
    newMessage { ext := fun _ _ => true, decompile := Filter.decompile false } allGuards
      (clientEncode 255 (.search 7 [100, 99, 61, 120] 2 0 0 0 false (Filter.encode 255 exDnFilter) [] [])) = .err := by
  decide

/-- the same request with the flag decoded -/
example : Filter.decompile true (Filter.encode 255 exDnFilter) = some [40, 99, 110, 58, 100, 110, 58, 61, 102, 111, 111, 41] := by
  decide

/-- non-vacuity: a nested filter with every kind of part -
    (&(cn:dn:2.5.13.2:=a(b)(|(sn=x*y*z)(!(uid>=1)))(mail=*)) -/
def exNested : Filter.Filter :=
  .and [.ext (some [50, 46, 53, 46, 49, 51, 46, 50]) (some [99, 110]) [97, 40, 98] true,
        .or [.substr [115, 110] [.initial [120], .any [121], .final [122]], .not (.ge [117, 105, 100] [49])],
        .present [109, 97, 105, 108]]

example : Filter.decompile true (Filter.encode 1 exNested) = some (Filter.render exNested) := by decide
/-- ... and it is within the grammar (the hypotheses of `C01_filter_faithful` are satisfiable by a filter with
    every kind of part) -/
example : Filter.WF exNested := by
  simp only [exNested, Filter.WF, Filter.WFAll, Filter.LeafWF, Filter.SubsWF, Filter.Plain, Option.some.injEq, forall_eq',
    and_true, ne_eq, reduceCtorEq, not_false_eq_true, true_and]
  decide
example : Filter.render exNested =
    [40, 38, 40, 99, 110, 58, 100, 110, 58, 50, 46, 53, 46, 49, 51, 46, 50, 58, 61, 97, 92, 50, 56, 98, 41,
     40, 124, 40, 115, 110, 61, 120, 42, 121, 42, 122, 41, 40, 33, 40, 117, 105, 100, 62, 61, 49, 41, 41, 41,
     40, 109, 97, 105, 108, 61, 42, 41, 41] := by decide

/-! ### the repair is conservative, frame by frame

The decode functions use `Env.decompile` in exactly one place (`searchParameters`); everything else depends on the
environment through `Env.ext` only. So a decompiler that answers wherever another one answers, with the same answer,
gives a decoder that delivers wherever the other one delivers, the same message. -/

section
variable (ext : Nat → Bytes → Bool) (d₁ d₂ : Node → Option Bytes)

theorem decodeControl_dec (g : Guards) (n : Node) : decodeControl ⟨ext, d₁⟩ g n = decodeControl ⟨ext, d₂⟩ g n := rfl

theorem decodeControls_dec (g : Guards) : ∀ ns : List Node, decodeControls ⟨ext, d₁⟩ g ns = decodeControls ⟨ext, d₂⟩ g ns
  | [] => rfl
  | n :: ns => by simp only [decodeControls, decodeControl_dec ext d₁ d₂ g n, decodeControls_dec g ns]

theorem controlsOf_dec (g : Guards) (p : Node) : controlsOf ⟨ext, d₁⟩ g p = controlsOf ⟨ext, d₂⟩ g p := by
  simp only [controlsOf, decodeControls_dec ext d₁ d₂]

end

theorem search_mono (ext : Nat → Bytes → Bool) (d₁ d₂ : Node → Option Bytes) (hm : ∀ f, Filter.Le (d₁ f) (d₂ f))
    (g : Guards) (p : Node) : (searchParameters ⟨ext, d₁⟩ g p).Le (searchParameters ⟨ext, d₂⟩ g p) := by
  unfold searchParameters
  refine .bind .refl fun r => ?_
  split
  · exact .refl
  iterate 6 (refine .bind .refl fun _ => ?_)  -- the six fields in front of the filter
  split
  · exact .refl
  · rename_i f _  -- the filter element: the one place where the decompiler is asked
    dsimp only
    cases hd : d₁ f with
    | none => exact fun _ h => nomatch h
    | some flt => rw [hm f flt hd, controlsOf_dec ext d₁ d₂]; exact .refl

theorem newMessage_mono (ext : Nat → Bytes → Bool) (d₁ d₂ : Node → Option Bytes) (hm : ∀ f, Filter.Le (d₁ f) (d₂ f))
    (g : Guards) (p : Node) : (newMessage ⟨ext, d₁⟩ g p).Le (newMessage ⟨ext, d₂⟩ g p) := by
  unfold newMessage
  refine .bind .refl fun ty => .bind .refl fun id => ?_
  cases ty with
  | search => exact .bind (search_mono ext d₁ d₂ hm g p) fun _ => .refl
  | _ =>
    simp only [simpleBindParameters, modifyParameters, addParameters, deleteParameters, controlsOf_dec ext d₁ d₂]
    exact .refl

/-- whatever message the pre-fix source delivered for a frame - ANY byte string, hostile ones included - the
    repaired source delivers the same message: the repair only turns rejections into deliveries -/
theorem C01_fix_conservative (ext : Nat → Bytes → Bool) (g : Guards) (bs : Bytes) (m : Msg)
    (h : serveFrame ⟨ext, Filter.decompile false⟩ g bs = .ok m) : serveFrame ⟨ext, Filter.decompile true⟩ g bs = .ok m := by
  revert m
  unfold serveFrame
  dsimp only
  split
  · exact Outcome.Le.refl
  · split
    · exact Outcome.Le.refl
    · exact newMessage_mono ext _ _ Filter.decompile_mono g _

end Gldap
