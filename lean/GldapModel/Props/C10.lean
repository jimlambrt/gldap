import GldapModel.Proofs.ConnLoopInv
import GldapModel.Generated.Facts
/-! # C10 - Unbind ends the connection: nothing after it is served -/
namespace ConnLoop

/-- After an Unbind has been read - whatever precedes it, whatever is already buffered behind
    it - no request is numbered, read or dispatched on that connection any more. -/
theorem C10_nothing_after_unbind (F : Facts) (pre post : List Ev) (r : Nat) (s : St)
    (h : run F init (pre ++ [.unbind r] ++ post) = some s) : ∀ e ∈ post, e.servesRequest = false := by
  obtain ⟨m, m', -, hs, hr⟩ := (isRun F).split h
  have hp : m'.phase.isLoop = false := by rw [unbind_exits (step_inv hs).goes]; rfl
  exact quiet_run (X := fun _ => False) (fun hp hg _ => after_loop hp hg) hr hp (by simp)

/-- the socket is closed only after every earlier handler has finished -/
theorem C10_close_after_handlers (F : Facts) (hF : F.closeWaitsHandlers = true) (s s' : St)
    (h : step F s .netclose = some s') : ∀ r ∈ s.spawned, r ∈ s.finished :=
  netclose_after_handlers F hF s s' h

/-- the unbind event exists only under inline-then-return dispatch, and exactly one per unbind
    request is possible: a second one is never enabled -/
theorem C10_unbind_once (F : Facts) (pre post : List Ev) (r r' : Nat) (s : St)
    (h : run F init (pre ++ [.unbind r] ++ post) = some s) : Ev.unbind r' ∉ post := by
  intro hm
  have := C10_nothing_after_unbind F pre post r s h _ hm
  simp [Ev.servesRequest] at this

theorem C10_current (pre post : List Ev) (r : Nat) (s : St)
    (h : run Gldap.Generated.connFacts init (pre ++ [.unbind r] ++ post) = some s) :
    ∀ e ∈ post, e.servesRequest = false := C10_nothing_after_unbind _ pre post r s h

theorem C10_current_facts :
    Gldap.Generated.connFacts.unbind = .inlineThenReturn ∧ Gldap.Generated.connFacts.closeWaitsHandlers = true := by decide

/-- why inline-then-return matters: if an unbind were dispatched like an ordinary request the loop
    would go on reading -/
theorem C10_counterexample :
    (run goodFacts init [.start, .head 1, .read 1, .spawn 1, .head 2, .read 2]).isSome = true := by decide

/-- non-vacuity: a pipeline <search> <unbind> with the search handler still running at the unbind -/
example : (run goodFacts init [.start, .head 1, .read 1, .spawn 1, .reqStart 1, .head 2, .read 2, .unbind 2,
    .teardown, .reqDone 1, .netclose, .closed, .onclose, .oncloseend, .wgdone, .gone]).map (·.phase) = some .gone := by decide

end ConnLoop
