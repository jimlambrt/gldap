import GldapModel.Generated.AccessTable
/-! # C15 - no data races inside gldap (the modelled synchronisation skeleton)

A race needs two goroutine instances about to access the same field of the same object, one of
them writing. `Access.no_race_under_common_lock` rules that out for accesses protected by a
common mutex; the per-field policy below says which discipline protects each field, and the
access table regenerated from the source on every run is checked against it by `decide`.
Partial: a lockset / confinement abstraction extracted syntactically; the Go memory model
itself is exercised only by the race detector runs of the harness. -/
namespace Access

/-- the discipline each field of conn / Server / Mux / ResponseWriter / Directory follows -/
def policy : String → Policy
  -- conn: identity and collaborators are fixed in newConn (disablePanicRecovery is set by Run before
  -- the goroutine exists); the net.Conn and its buffered reader / writer belong to the connection
  -- goroutine (StartTLS swaps them inline on that goroutine)
  | "conn.connID" | "conn.logger" | "conn.router" | "conn.shutdownCtx" | "conn.disablePanicRecovery" => .immutable
  | "conn.netConn" | "conn.reader" | "conn.writer" => .ownedBy 3
  | "conn.mu" | "conn.writerMu" | "conn.requestsWg" => .sync
  -- Server
  | "Server.listener" => .writerLocked "Server.mu" 2
  | "Server.listenerReady" => .lockedBy "Server.mu"
  | "Server.tlsConfig" => .ownedBy 2
  | "Server.router" | "Server.logger" | "Server.readTimeout" | "Server.writeTimeout" | "Server.onCloseHandler"
  | "Server.disablePanicRecovery" | "Server.shutdownCancel" | "Server.shutdownCtx" => .immutable
  | "Server.mu" | "Server.connWg" | "Server.connWgMu" => .sync
  -- Mux: routes are registered before Run (the property's premise)
  | "Mux.routes" | "Mux.defaultRoute" | "Mux.unbindRoute" => .immutable
  | "Mux.mu" => .sync
  -- ResponseWriter: set once in newResponseWriter
  | "ResponseWriter.writerMu" | "ResponseWriter.writer" | "ResponseWriter.logger" | "ResponseWriter.connID"
  | "ResponseWriter.requestID" => .immutable
  -- test directory: the mutable state is guarded by d.mu, the rest is fixed in Start
  | "Directory.users" | "Directory.groups" | "Directory.tokenGroups" | "Directory.allowAnonymousBind"
  | "Directory.controls" => .lockedBy "Directory.mu"
  | "Directory.mu" => .sync
  | "Directory.t" | "Directory.s" | "Directory.logger" | "Directory.port" | "Directory.host" | "Directory.useTLS"
  | "Directory.client" | "Directory.server" | "Directory.userDN" | "Directory.groupDN" => .immutable
  -- a field the policy does not know: fail closed
  | _ => .lockedBy "?"

/-- every access in the current source complies with its field's policy -/
theorem C15_table_ok : tableOK policy Gldap.Generated.accessTable = true := by decide +kernel

/-- hence every conflicting pair of accesses in the current source is justified: a common mutex,
    confinement to one goroutine, or a set-up write ordered before Run -/
theorem C15_current (a b : Row) (ha : a ∈ Gldap.Generated.accessTable) (hb : b ∈ Gldap.Generated.accessTable)
    (hc : conflicting a b = true) : justified policy a b = true :=
  justified_of_tableOK policy _ C15_table_ok a b ha hb hc

/-- the pre-fix test directory: handlers read `users` without the mutex that `SetUsers` holds -/
theorem C15_counterexample :
    tableOK policy [⟨"Directory.users", true, ["Directory.mu"], 5, "td.Directory.SetUsers"⟩,
                    ⟨"Directory.users", false, [], 4, "td.Directory.handleBind"⟩] = false := by decide +kernel

end Access
