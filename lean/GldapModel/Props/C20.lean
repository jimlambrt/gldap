import GldapModel.Proofs.StoreIdx
/-! # C20 - the test directory behaves like a consistent store

The model (`Directory.Store`) follows `testdirectory/directory.go` literally: every lookup goes
through `match`, i.e. a regular expression over the filter text and a *substring* test on DNs.
The property restricts attention to directories whose DNs are "not substrings of one another";
under exactly that hypothesis (`Pool`) the theorems below show that the handlers refine a plain
DN-keyed store (`spec*`), for every history, and derive the statements of the property from the
refinement. The hypothesis is necessary: `substring_dn_breaks_add` exhibits the failure without it.
-/
namespace Directory
open Ber Gldap Gldap.Generated

/-- the DNs the history draws from: clean (no `( ) * |`, newline or outer blanks, non-empty) and
    none of them a substring of another -/
structure Pool (pool : List Bytes) : Prop where
  clean : ∀ d ∈ pool, CleanDN d
  nosub : ∀ d ∈ pool, ∀ d' ∈ pool, d ≠ d' → containsBytes d' d = false

/-- a directory over the pool: DNs from the pool, no DN twice among users or among groups -/
structure Good (pool : List Bytes) (s : Store) : Prop where
  udn : ∀ e ∈ s.users, e.dn ∈ pool
  gdn : ∀ e ∈ s.groups, e.dn ∈ pool
  unodup : (s.users.map (·.dn)).Nodup
  gnodup : (s.groups.map (·.dn)).Nodup

def hasDN (es : List Entry) (d : Bytes) : Bool := es.any (fun e => e.dn == d)

def specAdd (s : Store) (d : Bytes) (attrs : List (Bytes × List Bytes)) : Store × Nat :=
  if hasDN s.users d then (s, ResultEntryAlreadyExists)
  else ({ s with users := s.users ++ [mkEntry d attrs] }, ResultSuccess)

def specDelete (s : Store) (d : Bytes) : Store × Nat :=
  if hasDN s.users d then ({ s with users := s.users.filter (fun e => e.dn != d) }, ResultSuccess)
  else if hasDN s.groups d then ({ s with groups := s.groups.filter (fun e => e.dn != d) }, ResultSuccess)
  else (s, ResultNoSuchObject)

/-- user entries only: the directory looks groups up with the bare DN, which never matches -/
def specModify (s : Store) (d : Bytes) (chs : List (Int × Bytes × List Bytes)) : Store × Nat :=
  if hasDN s.users d then
    ({ s with users := s.users.map fun e => if e.dn == d then { e with attrs := applyChanges e.attrs chs } else e },
     ResultSuccess)
  else (s, ResultNoSuchObject)

def specLookup (es : List Entry) (d : Bytes) : Nat × List Entry :=
  let r := es.filter (fun e => e.dn == d)
  if r.isEmpty then (ResultNoSuchObject, []) else (ResultSuccess, r)

/-! ## `find "(dn)"` is the exact-DN lookup -/

theorem match_exact (pool : List Bytes) (hp : Pool pool) (d : Bytes) (hd : d ∈ pool)
    (x : Bytes) (hx : x ∈ pool) : matchFilter (paren d) x = (x == d) := by
  rw [matchFilter_paren d x (hp.clean d hd)]
  cases h : x == d
  · rw [hp.nosub d hd x hx fun e => beq_eq_false_iff_ne.mp h e.symm]
  · rw [beq_iff_eq.mp h, containsBytes_refl]

/-- what the handlers do with the result of `find "(d)"`, over entries with distinct DNs from the pool -/
theorem find_key (pool : List Bytes) (hp : Pool pool) (d : Bytes) (hd : d ∈ pool)
    (es : List Entry) (hes : ∀ e ∈ es, e.dn ∈ pool) (hn : (es.map (·.dn)).Nodup) :
    (hasDN es d = false ∧ findIdx (paren d) es = []) ∨
    (hasDN es d = true ∧ ∃ i, findIdx (paren d) es = [i] ∧ es.eraseIdx i = es.filter (·.dn != d) ∧
      ∀ f, es.modify i f = es.map fun e => if e.dn == d then f e else e) := by
  rw [findIdx_eq_idxs, idxs_congr _ _ 0 es fun e he => match_exact pool hp d hd e.dn (hes e he)]
  exact idxs_key (·.dn) es hn d 0

theorem lookup_eq (pool : List Bytes) (hp : Pool pool) (d : Bytes) (hd : d ∈ pool) (es : List Entry)
    (hes : ∀ e ∈ es, e.dn ∈ pool) :
    (findIdx (paren d) es).filterMap (es[·]?) = es.filter (fun e => e.dn == d) := by
  rw [findIdx_filterMap]
  exact List.filter_congr fun e he => match_exact pool hp d hd e.dn (hes e he)

/-- a clean DN without parentheses is no filter at all: `find dn` finds nothing -/
theorem findParens_none (f : Nat) (s : Bytes) (h : ∀ b ∈ s, b.toNat ≠ 40) : findParens f s = [] := by
  induction f generalizing s with
  | zero => rfl
  | succ f ih =>
    cases s with
    | nil => rfl
    | cons b bs =>
      rw [findParens, if_neg (mt beq_iff_eq.mp (h b List.mem_cons_self))]
      exact ih bs fun x hx => h x (List.mem_cons_of_mem b hx)

theorem find_bare (d : Bytes) (hc : CleanDN d) (es : List Entry) : findIdx d es = [] := by
  rw [findIdx_eq_idxs]
  apply idxs_none
  intro e _
  unfold matchFilter
  rw [findParens_none _ d (fun b hb => (hc.chars b hb).1)]
  rfl

theorem add_refines (pool : List Bytes) (hp : Pool pool) (s : Store) (hg : Good pool s) (d : Bytes) (hd : d ∈ pool)
    (attrs : List (Bytes × List Bytes)) : add s d attrs = specAdd s d attrs := by
  unfold add specAdd
  rcases find_key pool hp d hd s.users hg.udn hg.unodup with ⟨h, e⟩ | ⟨h, i, e, -⟩ <;> rw [h, e] <;> rfl

theorem delete_refines (pool : List Bytes) (hp : Pool pool) (s : Store) (hg : Good pool s) (d : Bytes) (hd : d ∈ pool) :
    delete s d = specDelete s d := by
  unfold delete specDelete
  rcases find_key pool hp d hd s.users hg.udn hg.unodup with ⟨h, e⟩ | ⟨h, i, e, he, -⟩
  · rcases find_key pool hp d hd s.groups hg.gdn hg.gnodup with ⟨h', e'⟩ | ⟨h', i, e', he', -⟩
    · rw [h, e, h', e']; rfl
    · rw [h, e, h', e', ← he']; rfl
  · rw [h, e, ← he]; rfl

theorem modify_refines (pool : List Bytes) (hp : Pool pool) (s : Store) (hg : Good pool s) (d : Bytes) (hd : d ∈ pool)
    (chs : List (Int × Bytes × List Bytes)) : modify s d chs = specModify s d chs := by
  unfold modify specModify
  rcases find_key pool hp d hd s.users hg.udn hg.unodup with ⟨h, e⟩ | ⟨h, i, e, -, hm⟩
  · rw [h, e, find_bare d (hp.clean d hd)]; rfl
  · rw [h, e, ← hm]; rfl

/-- a search the mux hands to the user handler, with the filter "(dn)" -/
theorem search_users_refines (pool : List Bytes) (hp : Pool pool) (s : Store) (hg : Good pool s) (d : Bytes) (hd : d ∈ pool)
    (base : Bytes) (hroute : routeSearch s base = .users) :
    search s base (paren d) = specLookup s.users d := by
  unfold search searchVia specLookup
  rw [hroute]
  simp only
  rw [lookup_eq pool hp d hd s.users hg.udn]

/-! ## the group and the generic search handlers -/

theorem findMembers_none (f : Bytes) (gs : List Entry)
    (h : ∀ g ∈ gs, ∀ m ∈ getAttributeValues g memberAttr, matchFilter f (memberEq ++ m) = false) :
    findMembers f gs = [] := by
  unfold findMembers
  rw [List.flatMap_eq_nil_iff]
  intro x hx
  rw [List.map_eq_nil_iff, List.filter_eq_nil_iff]
  intro m hm
  rw [h x.1 (List.fst_mem_of_mem_zipIdx hx) m hm]
  exact Bool.false_ne_true

/-- no member value of any group mentions the DN (as the text "member=<value>") -/
def NoMemberHit (d : Bytes) (gs : List Entry) : Prop :=
  ∀ g ∈ gs, ∀ m ∈ getAttributeValues g memberAttr, matchFilter (paren d) (memberEq ++ m) = false

/-- a search the mux hands to the group handler, with the filter "(dn)" of a DN no member value mentions -/
theorem search_groups_refines (pool : List Bytes) (hp : Pool pool) (s : Store) (hg : Good pool s) (d : Bytes) (hd : d ∈ pool)
    (base : Bytes) (hroute : routeSearch s base = .groups) (hm : NoMemberHit d s.groups) :
    search s base (paren d) = specLookup s.groups d := by
  unfold search searchVia specLookup
  rw [hroute]
  simp only
  rw [findMembers_none (paren d) s.groups hm]
  have hf : (findIdx (paren d) s.groups).filter (fun i => !([] : List Nat).contains i) = findIdx (paren d) s.groups :=
    List.filter_eq_self.mpr (fun i _ => by simp)
  simp only [List.nil_append, hf]
  rw [lookup_eq pool hp d hd s.groups hg.gdn]

/-- a search below the user base handed to the generic handler looks the base DN itself up, among users and groups -/
theorem search_generic_refines (pool : List Bytes) (hp : Pool pool) (s : Store) (hg : Good pool s) (d : Bytes) (hd : d ∈ pool)
    (filter : Bytes) (hroute : routeSearch s d = .generic) (hsub : containsBytes d s.userDN = true) :
    search s d filter =
      (let es := s.users.filter (fun e => e.dn == d) ++ s.groups.filter (fun e => e.dn == d)
       if es.isEmpty then (ResultNoSuchObject, []) else (ResultSuccess, es)) := by
  unfold search searchVia
  rw [hroute]
  simp only [hsub, if_true]
  rw [lookup_eq pool hp d hd s.users hg.udn, lookup_eq pool hp d hd s.groups hg.gdn]

theorem specAdd_good (pool : List Bytes) (s : Store) (hg : Good pool s) (d : Bytes) (hd : d ∈ pool)
    (attrs : List (Bytes × List Bytes)) : Good pool (specAdd s d attrs).1 := by
  unfold specAdd
  split
  · exact hg
  · next h =>
    refine ⟨fun e he => ?_, hg.gdn, ?_, hg.gnodup⟩
    · rcases List.mem_append.mp he with he | he
      · exact hg.udn e he
      · rw [List.mem_singleton.mp he]; exact hd
    · rw [List.map_append, List.nodup_append]
      refine ⟨hg.unodup, List.pairwise_singleton _ _, fun a ha b hb hab => h ?_⟩
      obtain ⟨e, he, rfl⟩ := List.mem_map.mp ha
      exact List.any_eq_true.mpr ⟨e, he, beq_iff_eq.mpr (hab.trans (List.mem_singleton.mp hb))⟩

theorem specDelete_good (pool : List Bytes) (s : Store) (hg : Good pool s) (d : Bytes) : Good pool (specDelete s d).1 := by
  unfold specDelete
  split
  · exact ⟨fun e he => hg.udn e (List.mem_filter.mp he).1, hg.gdn,
      (hg.unodup.sublist (List.Sublist.map _ List.filter_sublist)), hg.gnodup⟩
  · split
    · exact ⟨hg.udn, fun e he => hg.gdn e (List.mem_filter.mp he).1, hg.unodup,
        (hg.gnodup.sublist (List.Sublist.map _ List.filter_sublist))⟩
    · exact hg

theorem modified_dn (d : Bytes) (chs : List (Int × Bytes × List Bytes)) (e : Entry) :
    (if e.dn == d then { e with attrs := applyChanges e.attrs chs } else e).dn = e.dn := by
  split <;> rfl

theorem specModify_good (pool : List Bytes) (s : Store) (hg : Good pool s) (d : Bytes)
    (chs : List (Int × Bytes × List Bytes)) : Good pool (specModify s d chs).1 := by
  unfold specModify
  split
  · refine ⟨fun e he => ?_, hg.gdn, ?_, hg.gnodup⟩
    · obtain ⟨x, hx, rfl⟩ := List.mem_map.mp he
      rw [modified_dn]; exact hg.udn x hx
    · rw [List.map_map, Function.comp_def, List.map_congr_left fun e _ => modified_dn d chs e]; exact hg.unodup
  · exact hg

/-- what a client can do to the directory, one operation at a time -/
inductive Op where
  | add (dn : Bytes) (attrs : List (Bytes × List Bytes))
  | modify (dn : Bytes) (chs : List (Int × Bytes × List Bytes))
  | delete (dn : Bytes)
  | searchUser (base dn : Bytes)
  | setUsers (us : List Entry)
  | setGroups (gs : List Entry)

inductive Out where
  | code (c : Nat)
  | found (c : Nat) (es : List Entry)
  | unit
  deriving DecidableEq, Repr

def stepModel (s : Store) : Op → Store × Out
  | .add d a => let r := add s d a; (r.1, .code r.2)
  | .modify d c => let r := modify s d c; (r.1, .code r.2)
  | .delete d => let r := delete s d; (r.1, .code r.2)
  | .searchUser b d => let r := search s b (paren d); (s, .found r.1 r.2)
  | .setUsers us => ({ s with users := us }, .unit)
  | .setGroups gs => ({ s with groups := gs }, .unit)

def stepSpec (s : Store) : Op → Store × Out
  | .add d a => let r := specAdd s d a; (r.1, .code r.2)
  | .modify d c => let r := specModify s d c; (r.1, .code r.2)
  | .delete d => let r := specDelete s d; (r.1, .code r.2)
  | .searchUser _ d => let r := specLookup s.users d; (s, .found r.1 r.2)
  | .setUsers us => ({ s with users := us }, .unit)
  | .setGroups gs => ({ s with groups := gs }, .unit)

def runModel (s : Store) : List Op → Store × List Out
  | [] => (s, [])
  | o :: os => let r := stepModel s o; let q := runModel r.1 os; (q.1, r.2 :: q.2)

def runSpec (s : Store) : List Op → Store × List Out
  | [] => (s, [])
  | o :: os => let r := stepSpec s o; let q := runSpec r.1 os; (q.1, r.2 :: q.2)

/-- the operation stays inside the pool (and a search is one the mux gives to the user handler) -/
def Op.Within (pool : List Bytes) (userDN groupDN : Bytes) : Op → Prop
  | .add d _ => d ∈ pool
  | .modify d _ => d ∈ pool
  | .delete d => d ∈ pool
  | .searchUser b d => d ∈ pool ∧ ∀ us gs, routeSearch ⟨us, gs, userDN, groupDN⟩ b = .users
  | .setUsers us => (∀ e ∈ us, e.dn ∈ pool) ∧ (us.map (·.dn)).Nodup
  | .setGroups gs => (∀ e ∈ gs, e.dn ∈ pool) ∧ (gs.map (·.dn)).Nodup

theorem stepSpec_dns (s : Store) (o : Op) : (stepSpec s o).1.userDN = s.userDN ∧ (stepSpec s o).1.groupDN = s.groupDN := by
  cases o <;> simp only [stepSpec, specAdd, specModify, specDelete, apply_ite Prod.fst, apply_ite Store.userDN,
    apply_ite Store.groupDN, ite_self, and_self]

theorem step_refines (pool : List Bytes) (hp : Pool pool) (s : Store) (hg : Good pool s) (o : Op)
    (hw : o.Within pool s.userDN s.groupDN) :
    stepModel s o = stepSpec s o ∧ Good pool (stepSpec s o).1 := by
  cases o with
  | add d a => exact ⟨by simp only [stepModel, stepSpec, add_refines pool hp s hg d hw], specAdd_good pool s hg d hw a⟩
  | modify d c => exact ⟨by simp only [stepModel, stepSpec, modify_refines pool hp s hg d hw], specModify_good pool s hg d c⟩
  | delete d => exact ⟨by simp only [stepModel, stepSpec, delete_refines pool hp s hg d hw], specDelete_good pool s hg d⟩
  | searchUser b d =>
    refine ⟨?_, hg⟩
    simp only [stepModel, stepSpec]
    rw [search_users_refines pool hp s hg d hw.1 b (hw.2 s.users s.groups)]
  | setUsers us => exact ⟨rfl, ⟨hw.1, hg.gdn, hw.2, hg.gnodup⟩⟩
  | setGroups gs => exact ⟨rfl, ⟨hg.udn, hw.1, hg.unodup, hw.2⟩⟩

/-- **C20, refinement**: for every history over a pool of clean, pairwise non-substring DNs, the
    directory's handlers answer exactly as the DN-keyed reference store does, operation by
    operation, and leave the same contents. -/
theorem C20_refinement (pool : List Bytes) (hp : Pool pool) (ops : List Op) (s : Store) (hg : Good pool s)
    (hw : ∀ o ∈ ops, o.Within pool s.userDN s.groupDN) :
    runModel s ops = runSpec s ops ∧ Good pool (runSpec s ops).1 := by
  induction ops generalizing s with
  | nil => exact ⟨rfl, hg⟩
  | cons o os ih =>
    obtain ⟨e, hg'⟩ := step_refines pool hp s hg o (hw o (by simp))
    have hd := stepSpec_dns s o
    have := ih (stepSpec s o).1 hg' (fun o' ho' => by rw [hd.1, hd.2]; exact hw o' (by simp [ho']))
    simp only [runModel, runSpec, e]
    exact ⟨by rw [this.1], this.2⟩

/-! ## the statements of the property, on the reference store -/

theorem filter_absent {es : List Entry} {d : Bytes} (h : hasDN es d = false) : es.filter (fun e => e.dn == d) = [] :=
  List.filter_eq_nil_iff.mpr (List.any_eq_false.mp h)

theorem lookup_after_add (s : Store) (d : Bytes) (attrs : List (Bytes × List Bytes))
    (h : hasDN s.users d = false) :
    specAdd s d attrs = ({ s with users := s.users ++ [mkEntry d attrs] }, ResultSuccess) ∧
    specLookup (specAdd s d attrs).1.users d = (ResultSuccess, [mkEntry d attrs]) := by
  simp [specAdd, specLookup, h, filter_absent h, mkEntry]

theorem add_existing (s : Store) (d : Bytes) (attrs : List (Bytes × List Bytes))
    (h : hasDN s.users d = true) : specAdd s d attrs = (s, ResultEntryAlreadyExists) := by
  simp [specAdd, h]

theorem lookup_after_delete (s : Store) (d : Bytes) :
    specLookup (specDelete s d).1.users d = (ResultNoSuchObject, []) ∧
    hasDN (specDelete s d).1.users d = false := by
  have key : hasDN (specDelete s d).1.users d = false := by
    unfold specDelete
    cases h : hasDN s.users d
    · cases hasDN s.groups d <;> exact h
    · exact List.any_eq_false.mpr fun e he => by simpa using (List.mem_filter.mp he).2
  exact ⟨by simp [specLookup, filter_absent key], key⟩

theorem missing_noSuchObject (s : Store) (d : Bytes) (chs : List (Int × Bytes × List Bytes))
    (hu : hasDN s.users d = false) (hgr : hasDN s.groups d = false) :
    specDelete s d = (s, ResultNoSuchObject) ∧ specModify s d chs = (s, ResultNoSuchObject) := by
  simp [specDelete, specModify, hu, hgr]

/-- a modification keeps every entry's DN, so it commutes with selecting by DN -/
theorem filter_modified (es : List Entry) (d d' : Bytes) (chs : List (Int × Bytes × List Bytes)) :
    (es.map fun e => if e.dn == d' then { e with attrs := applyChanges e.attrs chs } else e).filter (·.dn == d) =
      (es.filter (·.dn == d)).map fun e => if e.dn == d' then { e with attrs := applyChanges e.attrs chs } else e := by
  rw [List.filter_map]
  congr 2
  funext e
  exact congrArg (· == d) (modified_dn d' chs e)

theorem lookup_after_modify (s : Store) (hn : (s.users.map (·.dn)).Nodup) (d : Bytes)
    (chs : List (Int × Bytes × List Bytes)) (x : Entry) (hx : x ∈ s.users) (hxd : x.dn = d) :
    (specModify s d chs).2 = ResultSuccess ∧
    specLookup (specModify s d chs).1.users d = (ResultSuccess, [{ x with attrs := applyChanges x.attrs chs }]) := by
  subst hxd
  have h : hasDN s.users x.dn = true := List.any_eq_true.mpr ⟨x, hx, beq_self_eq_true _⟩
  simp only [specModify, h, if_true, true_and, specLookup]
  rw [filter_modified, filter_key (·.dn) s.users hn x hx, List.map_singleton, if_pos (beq_self_eq_true _)]
  rfl

theorem specLookup_congr {es es' : List Entry} {d : Bytes}
    (h : es.filter (fun e => e.dn == d) = es'.filter (fun e => e.dn == d)) : specLookup es d = specLookup es' d := by
  unfold specLookup; rw [h]

/-- operations on another DN leave what a lookup of `d` sees untouched -/
theorem lookup_frame (s : Store) (d d' : Bytes) (hne : d' ≠ d) (attrs : List (Bytes × List Bytes))
    (chs : List (Int × Bytes × List Bytes)) :
    specLookup (specAdd s d' attrs).1.users d = specLookup s.users d ∧
    specLookup (specDelete s d').1.users d = specLookup s.users d ∧
    specLookup (specModify s d' chs).1.users d = specLookup s.users d := by
  have hd (e : Entry) (h : (e.dn == d) = true) : (e.dn == d') = false :=
    beq_eq_false_iff_ne.mpr fun h' => hne (h' ▸ beq_iff_eq.mp h)
  refine ⟨?_, ?_, ?_⟩ <;> apply specLookup_congr
  · unfold specAdd
    cases hasDN s.users d'
    · exact (List.filter_append ..).trans (by rw [List.filter_cons_of_neg (by simpa [mkEntry] using hne)]; simp)
    · rfl
  · unfold specDelete
    cases hasDN s.users d'
    · cases hasDN s.groups d' <;> rfl
    · exact List.filter_filter.trans (List.filter_congr fun e _ => by
        cases h : e.dn == d; rfl; simp [bne, hd e h])
  · unfold specModify
    cases hasDN s.users d'
    · rfl
    · refine (filter_modified s.users d d' chs).trans ?_
      -- the entries with DN `d` are not those the modification touches
      exact (List.map_congr_left (g := id) fun e he => by rw [hd e (List.mem_filter.mp he).2]; rfl).trans (List.map_id _)

/-! ## modifications of one entry's attributes -/

def valsOf (attrs : List EAttr) (name : Bytes) : List Bytes :=
  match attrs.find? (fun a => a.name == name) with
  | some a => a.values
  | none => []

theorem lastIdxOf_eq (name : Bytes) (attrs : List EAttr) :
    lastIdxOf name attrs = (idxs (fun a : EAttr => a.name == name) 0 attrs).getLast? := by
  unfold lastIdxOf
  rw [← zipIdx_filter_idxs (fun a : EAttr => a.name == name) 0 attrs, List.getLast?_map]

theorem lastIdxOf_split (name : Bytes) (l r : List EAttr) (a : EAttr) (ha : a.name = name)
    (hl : ∀ x ∈ l, x.name ≠ name) (hr : ∀ x ∈ r, x.name ≠ name) :
    lastIdxOf name (l ++ a :: r) = some l.length := by
  rw [lastIdxOf_eq, idxs_unique (fun a : EAttr => a.name == name) 0 l r a
    (fun x hx => beq_eq_false_iff_ne.mpr (hl x hx)) (beq_iff_eq.mpr ha) (fun x hx => beq_eq_false_iff_ne.mpr (hr x hx))]
  rfl

theorem lastIdxOf_none (name : Bytes) (attrs : List EAttr) (h : ∀ x ∈ attrs, x.name ≠ name) :
    lastIdxOf name attrs = none := by
  rw [lastIdxOf_eq, idxs_none _ 0 attrs (fun x hx => by simp [h x hx])]
  rfl

theorem valsOf_split (name : Bytes) (l r : List EAttr) (a : EAttr) (ha : a.name = name)
    (hl : ∀ x ∈ l, x.name ≠ name) : valsOf (l ++ a :: r) name = a.values := by
  unfold valsOf
  rw [List.find?_append, List.find?_eq_none.mpr fun x hx h => hl x hx (beq_iff_eq.mp h)]
  simp only [Option.none_or, List.find?_cons, beq_iff_eq.mpr ha]

theorem valsOf_absent (name : Bytes) (attrs : List EAttr) (h : ∀ x ∈ attrs, x.name ≠ name) : valsOf attrs name = [] := by
  unfold valsOf
  rw [List.find?_eq_none.mpr (fun x hx => by simp [h x hx])]

/-- add-value, delete-attribute and replace on an entry whose attribute names are distinct:
    what a later read of that attribute returns -/
theorem change_present (l r : List EAttr) (a : EAttr) (vals : List Bytes)
    (hl : ∀ x ∈ l, x.name ≠ a.name) (hr : ∀ x ∈ r, x.name ≠ a.name) :
    valsOf (applyChange (l ++ a :: r) 0 a.name vals) a.name = a.values ++ vals ∧
    valsOf (applyChange (l ++ a :: r) 1 a.name vals) a.name = [] ∧
    valsOf (applyChange (l ++ a :: r) 2 a.name vals) a.name = vals := by
  have hi := lastIdxOf_split a.name l r a rfl hl hr
  refine ⟨?_, ?_, ?_⟩ <;> simp only [applyChange, hi]
  · rw [if_pos (by decide), modify_split, valsOf_split a.name l r (a.addValue vals) rfl hl]; rfl
  · rw [if_neg (by decide), if_pos (by decide), eraseIdx_split]
    exact valsOf_absent _ _ fun x hx => (List.mem_append.mp hx).elim (hl x) (hr x)
  · rw [if_neg (by decide), if_neg (by decide), if_pos (by decide), set_split,
      valsOf_split a.name l r (newEntryAttribute a.name vals) rfl hl]; rfl

theorem change_absent (attrs : List EAttr) (name : Bytes) (vals : List Bytes) (h : ∀ x ∈ attrs, x.name ≠ name) :
    valsOf (applyChange attrs 0 name vals) name = vals ∧
    applyChange attrs 1 name vals = attrs ∧ applyChange attrs 2 name vals = attrs := by
  have hi := lastIdxOf_none name attrs h
  refine ⟨?_, ?_, ?_⟩
  · simp only [applyChange, hi, beq_self_eq_true, if_true]
    exact valsOf_split name attrs [] (newEntryAttribute name vals) rfl h
  · simp [applyChange, hi]
  · simp [applyChange, hi]

/-! ## the hypothesis is needed, and a replace that does not reach the directory is visible -/

def dnAl : Bytes := [99, 110, 61, 97, 108]                       -- "cn=al"
def dnAlice : Bytes := [99, 110, 61, 97, 108, 105, 99, 101]      -- "cn=alice"

/-- with one DN a substring of another the directory refuses to add the shorter one although
    no entry has that DN -/
theorem substring_dn_breaks_add :
    (add ⟨[⟨dnAlice, []⟩], [], [], []⟩ dnAl []).2 = ResultEntryAlreadyExists ∧
    hasDN [⟨dnAlice, []⟩] dnAl = false := by decide

/-- the defect repaired in testdirectory (`foundAttr = NewEntryAttribute(..)` rebinding a local):
    a replace that leaves the attribute untouched contradicts `change_present` -/
def applyChangeNoReplace (attrs : List EAttr) (op : Int) (ty : Bytes) (vals : List Bytes) : List EAttr :=
  if op == 2 then attrs else applyChange attrs op ty vals

theorem replace_dropped_counterexample :
    valsOf (applyChangeNoReplace [⟨[99, 110], [[1]], [[1]]⟩] 2 [99, 110] [[2]]) [99, 110] ≠ [[2]] := by decide

theorem cleanDN_dnAlice : CleanDN dnAlice := .of_check (by decide) (by decide) (by decide) (by decide)

theorem Pool.singleton {d : Bytes} (h : CleanDN d) : Pool [d] :=
  ⟨fun _ hx => List.mem_singleton.mp hx ▸ h,
   fun _ hx _ hy hne => absurd ((List.mem_singleton.mp hx).trans (List.mem_singleton.mp hy).symm) hne⟩

example : Pool [dnAlice] ∧ Good [dnAlice] ⟨[⟨dnAlice, []⟩], [], [], []⟩ :=
  ⟨.singleton cleanDN_dnAlice, by simp, by simp, by simp, by simp⟩

end Directory
