import GldapModel.Props.Session
import GldapModel.Props.C19
import GldapModel.Directory.BindSession
/-! # C19 end to end: from the bytes of a simple bind to the bytes of the directory's answer

The test directory's bind handler as a handler script of the session model: `NewBindResponse`
with invalidCredentials, then `SetResultCode(success)` (and `SetControls(d.controls...)` after a
password match) exactly when directory.go does. Composed with `session_cons` (C01 decoding,
C03 routing, C04 encoding) this gives the property at the level a client sees it. -/
namespace Directory
open Ber Spec Gldap Gldap.Generated Gldap.Session

theorem respond_bind (table) (g : Guards) (users : List Entry) (allowAnon : Bool) (dctls : List Control)
    (id : Int) (dn pw : Bytes) (cs : List Control) :
    respondR table g (bindCfg users allowAnon dctls) (.bind id dn pw cs) = [bindAnswer users allowAnon dctls id dn pw] := by
  rw [respondR_of_serve (cfg := bindCfg users allowAnon dctls) (h := 0) rfl]
  simp only [bindCfg, bindScript, bindAnswer, handleBind, Msg.id]
  -- on each branch of the handler both sides compute to the same response object
  cases (pw.isEmpty && allowAnon)
  · cases users.any (userAccepts dn pw)
    · rfl
    · cases dctls <;> rfl
  · rfl

/-- **C19 on the wire.** A client sends a simple bind (any message id, DN, password and request
    controls) followed by anything; the directory's connection writes exactly one frame, the
    encoding of a BindResponse with that message id whose result code is success iff the
    credentials are right - and goes on with the rest of the stream. -/
theorem C19_session (env : Env) (table) (g : Guards) (tt : UInt8) (htt : tt ≠ 0)
    (users : List Entry) (allowAnon : Bool) (dctls : List Control)
    (id : Int) (dn pw : Bytes) (ctls : List CCtl) (dec : CReq → Bytes)
    (hs : Sendable env tt dec (.bind id dn pw ctls)) (fuel : Nat) (rest : Bytes) :
    session env table g (bindCfg users allowAnon dctls) (fuel + 1) (ser (clientEncode tt (.bind id dn pw ctls)) ++ rest) =
      (responseBytes (bindAnswer users allowAnon dctls id dn pw) ::
        (session env table g (bindCfg users allowAnon dctls) fuel rest).1,
       (session env table g (bindCfg users allowAnon dctls) fuel rest).2) := by
  rw [session_cons env table g _ tt htt dec (.bind id dn pw ctls) hs rfl fuel rest]
  simp [respond, expected, respond_bind]

/-- what the client reads from that frame: a BindResponse (tag 1) with its message id, and
    result code 0 exactly for the right credentials, 49 otherwise -/
theorem C19_client_view (ext : Nat → Bytes → Bool) (users : List Entry) (allowAnon : Bool) (dctls : List Control)
    (id : Int) (dn pw : Bytes) (hid : Int64 id) (hc : ∀ c ∈ dctls, c.WF)
    (hber : (packetOf (bindAnswer users allowAnon dctls id dn pw)).WF ext) (rest : Bytes) :
    ∃ code cv, (readPacket ext (responseBytes (bindAnswer users allowAnon dctls id dn pw) ++ rest)).map
        (fun p => (readResponse ext p.1, p.2)) = some (some (.result id 1 code [] [] cv), rest) ∧
      (code = 0 ∨ code = 49) ∧
      (code = 0 ↔ (pw = [] ∧ allowAnon = true) ∨
        ∃ u ∈ users, u.dn = dn ∧ (getAttributeValues u passwordAttr).head? = some pw) := by
  have hcode := C19_otherwise_invalid users allowAnon dn pw
  have hwf : (bindAnswer users allowAnon dctls id dn pw).WF := by
    refine ⟨hid, ?_, ?_⟩
    · show -(2^63) ≤ ((handleBind users allowAnon dn pw : Nat) : Int) ∧ ((handleBind users allowAnon dn pw : Nat) : Int) < 2^63
      omega
    · -- the controls are the directory's own, or none
      show ∀ c ∈ (if (pw.isEmpty && allowAnon) then [] else if users.any (userAccepts dn pw) then dctls else []), c.WF
      cases (pw.isEmpty && allowAnon)
      · cases users.any (userAccepts dn pw)
        · exact fun _ h => nomatch h
        · exact hc
      · exact fun _ h => nomatch h
  exact ⟨handleBind users allowAnon dn pw, (bindAnswer users allowAnon dctls id dn pw).controls.map viewOf,
    C04_wire ext _ hwf hber rest, hcode.imp (congrArg Nat.cast) (congrArg Nat.cast),
    Int.natCast_eq_zero.trans (C19_bind_iff users allowAnon dn pw)⟩

end Directory
