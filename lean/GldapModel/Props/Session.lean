import GldapModel.Gldap.Session
import GldapModel.Props.C01
import GldapModel.Props.C03
import GldapModel.Props.C04
import GldapModel.Props.C05
import GldapModel.Proofs.ParsePrefix
/-! # End to end: from the bytes a client sends on a connection to the bytes it reads back

Composition of C01 (decoding), C03 (routing), C04 (responses) and the byte-level half of C10
(nothing after an Unbind) over the sequential connection model `Gldap.Session.session`. The
statements are about arbitrary route tables, handler scripts, request sequences and whatever
bytes follow them. Stream `session` replays the same sequences against a real server. -/
namespace Gldap.Session
open Ber Spec Gldap Gldap.Generated

def _root_.Spec.RView.messageID : RView → Int
  | .result id .. => id
  | .entry id .. => id

def _root_.Spec.RView.tag : RView → Nat
  | .result _ t .. => t
  | .entry .. => 4

theorem viewOfResp_messageID (r : Resp) : (viewOfResp r).messageID = r.messageID := by
  unfold viewOfResp
  cases r.kind <;> rfl

/-! ### what a frame-by-frame client sends -/

/-- the wire image of a request sequence -/
def wire (tt : UInt8) (rs : List CReq) : Bytes := serAll (rs.map (clientEncode tt))

def _root_.Spec.CReq.isUnbind : CReq → Bool
  | .unbind _ => true
  | _ => false

/-- every request of the list is one the property quantifies over, encodes within the BER
    reader's limits, and (searches) carries a filter go-ldap decompiles to `dec r` -/
structure Sendable (env : Env) (tt : UInt8) (dec : CReq → Bytes) (r : CReq) : Prop where
  wf : r.WF
  ber : (clientEncode tt r).WF env.ext
  filter : ∀ id base sc de sz tm ty f attrs ctls, r = .search id base sc de sz tm ty f attrs ctls →
    env.decompile f = some (dec r)

theorem expected_isUnbind (d : Bytes) (r : CReq) : (expected d r).isUnbind = r.isUnbind := by
  cases r <;> rfl

theorem expected_id (d : Bytes) (r : CReq) : (expected d r).id = (match r with
    | .bind id .. => id | .search id .. => id | .extended id _ => id | .modify id .. => id
    | .add id .. => id | .delete id .. => id | .unbind id => id) := by
  cases r <;> rfl

theorem ser_append_not_empty (n : Node) (rest : Bytes) : (ser n ++ rest).isEmpty = false := by
  have := ser_length_ge_two n
  cases h : ser n with
  | nil => rw [h] at this; cases this
  | cons _ _ => rfl

theorem frameRest_ser (env : Env) (n : Node) (rest : Bytes) (hw : n.WF env.ext) :
    frameRest env (ser n ++ rest) = rest := by
  simp [frameRest, readPacket_ser env.ext n rest hw]

theorem nonempty_of_ok {env : Env} {g : Guards} {bs : Bytes} {msg : Msg} (h : serveFrame env g bs = .ok msg) :
    bs.isEmpty = false := by
  cases bs
  · cases h
  · rfl

/-- the read loop on a stream whose first frame decodes to a request other than an Unbind -/
theorem session_step {env : Env} {g : Guards} {bs : Bytes} {msg : Msg} (h : serveFrame env g bs = .ok msg)
    (hu : msg.isUnbind = false) (table) (cfg : Cfg) (fuel : Nat) :
    session env table g cfg (fuel + 1) bs =
      (respond table g cfg msg ++ (session env table g cfg fuel (frameRest env bs)).1,
       (session env table g cfg fuel (frameRest env bs)).2) := by
  rw [session]
  simp [nonempty_of_ok h, h, hu]

/-- ... and to an Unbind -/
theorem session_bye {env : Env} {g : Guards} {bs : Bytes} {msg : Msg} (h : serveFrame env g bs = .ok msg)
    (hu : msg.isUnbind = true) (table) (cfg : Cfg) (fuel : Nat) :
    session env table g cfg (fuel + 1) bs = (respondUnbind g cfg msg.id, .unbind) := by
  rw [session]
  simp [nonempty_of_ok h, h, hu]

/-- one step of the read loop on a request the client sent, whatever follows it -/
theorem session_cons (env : Env) (table) (g : Guards) (cfg : Cfg) (tt : UInt8) (htt : tt ≠ 0)
    (dec : CReq → Bytes) (r : CReq) (hs : Sendable env tt dec r) (hu : r.isUnbind = false)
    (fuel : Nat) (rest : Bytes) :
    session env table g cfg (fuel + 1) (ser (clientEncode tt r) ++ rest) =
      (respond table g cfg (expected (dec r) r) ++ (session env table g cfg fuel rest).1,
       (session env table g cfg fuel rest).2) := by
  rw [session_step (C01_roundtrip env g tt htt r hs.wf hs.ber (dec r) rest hs.filter) (by rw [expected_isUnbind, hu]),
    frameRest_ser env _ rest hs.ber]

/-- **Every request is answered, in order, by the route table's choice.** A client that sends
    the requests `rs` (none of them an Unbind) followed by anything at all: the connection
    writes, for each request in order, exactly the frames `respond` describes for the message
    C01 says the handler receives - then goes on with whatever follows. -/
theorem session_requests (env : Env) (table) (g : Guards) (cfg : Cfg) (tt : UInt8) (htt : tt ≠ 0)
    (dec : CReq → Bytes) (rs : List CReq) (hs : ∀ r ∈ rs, Sendable env tt dec r)
    (hu : ∀ r ∈ rs, r.isUnbind = false) (fuel : Nat) (tail : Bytes) :
    session env table g cfg (rs.length + fuel) (wire tt rs ++ tail) =
      (rs.flatMap (fun r => respond table g cfg (expected (dec r) r)) ++ (session env table g cfg fuel tail).1,
       (session env table g cfg fuel tail).2) := by
  induction rs with
  | nil => simp [wire, serAll]
  | cons r rs ih =>
    rw [List.forall_mem_cons] at hs hu
    rw [List.length_cons, Nat.add_right_comm, wire, List.map_cons, serAll, List.append_assoc,
      session_cons env table g cfg tt htt dec r hs.1 hu.1, ← wire, ih hs.2 hu.2]
    simp

/-- the whole conversation of a client that sends `rs` and then closes its side -/
theorem session_complete (env : Env) (table) (g : Guards) (cfg : Cfg) (tt : UInt8) (htt : tt ≠ 0)
    (dec : CReq → Bytes) (rs : List CReq) (hs : ∀ r ∈ rs, Sendable env tt dec r)
    (hu : ∀ r ∈ rs, r.isUnbind = false) (fuel : Nat) :
    session env table g cfg (rs.length + fuel) (wire tt rs) =
      (rs.flatMap (fun r => respond table g cfg (expected (dec r) r)), .eof) := by
  have h := session_requests env table g cfg tt htt dec rs hs hu fuel []
  have h0 : session env table g cfg fuel [] = ([], .eof) := by cases fuel <;> rfl
  rwa [h0, List.append_nil, List.append_nil] at h

/-- **Nothing after an Unbind is served (C10, at the level of bytes).** Whatever follows an
    Unbind request on the stream - further well-formed requests, garbage, a half frame - the
    connection writes what the optional unbind handler writes and nothing else; the bytes after
    the Unbind are never even looked at. -/
theorem session_unbind (env : Env) (table) (g : Guards) (cfg : Cfg) (tt : UInt8) (htt : tt ≠ 0)
    (id : Int) (hid : Int64 id) (hber : (clientEncode tt (.unbind id)).WF env.ext) (fuel : Nat) (rest : Bytes) :
    session env table g cfg (fuel + 1) (ser (clientEncode tt (.unbind id)) ++ rest) =
      (respondUnbind g cfg id, .unbind) :=
  session_bye (C01_roundtrip env g tt htt (.unbind id) hid hber [] rest (by intros; contradiction)) rfl ..

/-- requests, then an Unbind, then anything: the answers to the requests, the unbind handler's
    frames, and the end. In particular the result does not depend on `rest`. -/
theorem session_requests_then_unbind (env : Env) (table) (g : Guards) (cfg : Cfg) (tt : UInt8) (htt : tt ≠ 0)
    (dec : CReq → Bytes) (rs : List CReq) (hs : ∀ r ∈ rs, Sendable env tt dec r)
    (hu : ∀ r ∈ rs, r.isUnbind = false) (id : Int) (hid : Int64 id)
    (hber : (clientEncode tt (.unbind id)).WF env.ext) (fuel : Nat) (rest : Bytes) :
    session env table g cfg (rs.length + (fuel + 1)) (wire tt rs ++ (ser (clientEncode tt (.unbind id)) ++ rest)) =
      (rs.flatMap (fun r => respond table g cfg (expected (dec r) r)) ++ respondUnbind g cfg id, .unbind) := by
  rw [session_requests env table g cfg tt htt dec rs hs hu (fuel + 1),
    session_unbind env table g cfg tt htt id hid hber fuel rest]

/-! ### arbitrary streams: the six cases of the read loop are those of `session.induct` -/

/-- the frames of a session are those of the requests it decodes, request by request -/
theorem session_frames (env : Env) (table) (g : Guards) (cfg : Cfg) (fuel : Nat) (bs : Bytes) :
    (session env table g cfg fuel bs).1 = (sessionMsgs env g fuel bs).flatMap (framesFor table g cfg) := by
  fun_induction session env table g cfg fuel bs <;> simp_all +zetaDelta [sessionMsgs, framesFor]

/-! ### every frame carries the message id of the request it answers -/

theorem construct_id (g : Guards) (mid : Int) (c : Ctor) (opts : List ROpt) (r : Resp)
    (h : construct g mid c opts = .ok r) : r.messageID = mid := by
  cases c
  case modify => exact (C04_message_id g mid [] opts []).2.2.2.2.2 r h
  all_goals cases h; rfl

theorem build_id (g : Guards) (mid : Int) (s : RespSpec) (r : Resp) (h : build g mid s = .ok r) :
    r.messageID = mid := by
  unfold build at h
  split at h
  next r0 hc => cases h; exact (applySets_messageID r0 _).trans (construct_id g mid _ _ r0 hc)
  all_goals cases h

theorem runScript_ids (g : Guards) (mid : Int) (sc : List RespSpec) :
    ∀ r ∈ runScript g mid sc, r.messageID = mid := by
  induction sc with
  | nil => exact fun _ h => nomatch h
  | cons s rest ih =>
    intro r hr
    unfold runScript at hr
    split at hr
    next r0 hb =>
      rcases List.mem_cons.mp hr with rfl | hr
      · exact build_id g mid s _ hb
      · exact ih r hr
    next => nomatch hr

/-- **Whatever route is taken - a handler's responses, the default route's, or gldap's own
    refusal - every response written for a request carries that request's message id.** -/
theorem respond_ids (table) (g : Guards) (cfg : Cfg) (msg : Msg) :
    ∀ r ∈ respondR table g cfg msg, r.messageID = msg.id := by
  intro r hr
  simp only [respondR, List.mem_flatMap] at hr
  obtain ⟨e, he, hr⟩ := hr
  -- the effect is an invocation, or the refusal mux.go builds from the request
  rcases C03_first_match table _ msg _ rfl with ⟨i, hi, h, -⟩ | ⟨-, h', -, h⟩ | ⟨-, -, h⟩ <;>
    rw [h, List.mem_singleton] at he <;> subst he
  · exact runScript_ids g msg.id _ r hr
  · exact runScript_ids g msg.id _ r hr
  · rw [List.mem_singleton.mp hr]; rfl

/-- ... and so does the client, reading the frames from the wire: the k-th frame of the answer
    to a request parses as one LDAPMessage whose message id is the request's -/
theorem respond_wire_ids (ext : Nat → Bytes → Bool) (table) (g : Guards) (cfg : Cfg) (msg : Msg)
    (r : Resp) (hr : r ∈ respondR table g cfg msg) (hw : r.WF) (hber : (packetOf r).WF ext) (rest : Bytes) :
    (readPacket ext (responseBytes r ++ rest)).map (fun p => ((readResponse ext p.1).map (·.messageID), p.2)) =
      some (some msg.id, rest) := by
  -- C04's reading of the frame, with the message id taken out of the view
  have h := congrArg (Option.map fun q : Option RView × Bytes => (q.1.map (·.messageID), q.2))
    (C04_wire ext r hw hber rest)
  rw [Option.map_map] at h
  rw [← respond_ids table g cfg msg r hr, ← viewOfResp_messageID]
  exact h


/-! ### the frame budget is immaterial -/

/-- a frame that decodes was read: the reader returned a packet and `frameRest` -/
theorem readPacket_of_ok {env : Env} {g : Guards} {bs : Bytes} {msg : Msg} (h : serveFrame env g bs = .ok msg) :
    ∃ p, readPacket env.ext bs = some (p, frameRest env bs) := by
  unfold serveFrame at h
  unfold frameRest
  split at h
  · cases h
  · rename_i p r hp
    exact ⟨p, by rw [hp]⟩

theorem frameRest_len (env : Env) (g : Guards) (bs : Bytes) (msg : Msg) (h : serveFrame env g bs = .ok msg) :
    (frameRest env bs).length + 2 ≤ bs.length :=
  let ⟨p, hp⟩ := readPacket_of_ok h
  readPacket_len env.ext bs p _ hp

/-- any frame budget above the length of the stream gives the same session: the reader takes at
    least two bytes per frame, so the budget never runs out before the stream does -/
theorem session_fuel (env : Env) (table) (g : Guards) (cfg : Cfg) (f1 f2 : Nat) (bs : Bytes)
    (h1 : bs.length < f1) (h2 : bs.length < f2) :
    session env table g cfg f1 bs = session env table g cfg f2 bs := by
  induction f1 generalizing bs f2 with
  | zero => omega
  | succ f1 ih =>
    obtain _ | f2 := f2
    · omega
    cases hs : serveFrame env g bs with
    | ok msg =>
      have := frameRest_len env g bs msg hs
      cases hu : msg.isUnbind
      · rw [session_step hs hu, session_step hs hu, ih f2 _ (by omega) (by omega)]
      · rw [session_bye hs hu, session_bye hs hu]
    | _ => rw [session, session]; simp only [hs]

/-! ### sessions compose along the stream, whatever the encoding of the frames -/

/-- reading and decoding the first frame of a stream does not depend on what follows it -/
theorem serveFrame_ext (env : Env) (g : Guards) (bs t : Bytes) (msg : Msg) (h : serveFrame env g bs = .ok msg) :
    serveFrame env g (bs ++ t) = .ok msg ∧ frameRest env (bs ++ t) = frameRest env bs ++ t := by
  obtain ⟨p, hp⟩ := readPacket_of_ok h
  have he := readPacket_ext env.ext bs t p _ hp
  simp only [serveFrame, hp] at h
  simp only [serveFrame, frameRest, he, h, and_self]

theorem session_append_eof (env : Env) (table) (g : Guards) (cfg : Cfg) (f : Nat) (a : Bytes)
    (ha : (session env table g cfg f a).2 = .eof) (hf : a.length < f) (b : Bytes) (fb : Nat) (hb : b.length < fb) :
    session env table g cfg (f + fb) (a ++ b) =
      ((session env table g cfg f a).1 ++ (session env table g cfg fb b).1, (session env table g cfg fb b).2) := by
  fun_induction session env table g cfg f a
  case case1 => omega
  -- `a` is used up: the session on `b`, with a larger budget
  case case2 fuel a h =>
    rw [List.isEmpty_iff.mp h]
    exact session_fuel env table g cfg _ fb b (by simp; omega) hb
  -- the first frame of `a ++ b` is that of `a`; then the induction hypothesis on what is left of `a`
  case case6 fuel a hne msg hs hu r ih =>
    have hl := frameRest_len env g a msg hs
    obtain ⟨hx1, hx2⟩ := serveFrame_ext env g a b msg hs
    rw [Nat.succ_add, session_step hx1 (Bool.eq_false_iff.mpr hu), hx2, ih ha (by omega)]
    simp [r]
  -- the other cases do not end in `eof`
  all_goals cases ha

/-- **A connection's answers to a stream are the answers to its first part followed by the
    answers to the rest** - for every byte stream the reader accepts frame after frame
    (canonical or not: indefinite lengths, padded lengths, anything), not only for the encoder's
    image as in `session_requests`. `a` is a part of the stream that is consumed completely and
    ends between two frames; `b` is whatever comes next. -/
theorem session_append (env : Env) (table) (g : Guards) (cfg : Cfg) (f : Nat) (a : Bytes) (o : List Bytes)
    (ha : session env table g cfg f a = (o, .eof)) (hf : a.length < f) (b : Bytes) (fb : Nat) (hb : b.length < fb) :
    session env table g cfg (f + fb) (a ++ b) =
      (o ++ (session env table g cfg fb b).1, (session env table g cfg fb b).2) := by
  rw [session_append_eof env table g cfg f a (by rw [ha]) hf b fb hb, ha]

/-! ### gldap's own code never crashes a session (C02 along the whole stream) -/

/-- whatever bytes arrive on a connection, in whatever order and however damaged: with the guards
    of the current source the read loop never ends in a panic of gldap's own decoding -/
theorem session_never_crashes (env : Env) (table) (g : Guards) (hg : g.decodeAll = true) (cfg : Cfg)
    (fuel : Nat) (bs : Bytes) : (session env table g cfg fuel bs).2 ≠ .crashed := by
  fun_induction session env table g cfg fuel bs
  -- the frame makes gldap's decoding panic: excluded by C02
  case case4 h => exact absurd h (np_iff.mpr (C02_frames env g hg _))
  -- the frame is a request: the ending is that of the rest of the stream
  case case6 ih => exact ih
  all_goals nofun

theorem session_never_crashes_current (env : Env) (cfg : Cfg) (fuel : Nat) (bs : Bytes) :
    (session env Generated.refusalTable Generated.guards cfg fuel bs).2 ≠ .crashed :=
  session_never_crashes env _ _ (by decide) cfg fuel bs

/-! ### every frame of a session answers one of the requests read on it -/

theorem framesFor_ids (table) (g : Guards) (cfg : Cfg) (msg : Msg) :
    ∀ f ∈ framesFor table g cfg msg, ∃ r : Resp, f = responseBytes r ∧ r.messageID = msg.id := by
  intro f hf
  unfold framesFor at hf
  split at hf
  · simp only [respondUnbind, List.mem_map] at hf
    obtain ⟨r, hr, rfl⟩ := hf
    refine ⟨r, rfl, ?_⟩
    unfold respondUnbindR at hr
    split at hr
    · exact runScript_ids g msg.id _ r hr
    · nomatch hr
  · simp only [respond, List.mem_map] at hf
    obtain ⟨r, hr, rfl⟩ := hf
    exact ⟨r, rfl, respond_ids table g cfg msg r hr⟩

/-- for arbitrary input bytes: each frame the connection writes is the encoding of a response
    whose message id is that of a request decoded from those bytes -/
theorem session_ids (env : Env) (table) (g : Guards) (cfg : Cfg) (fuel : Nat) (bs : Bytes) :
    ∀ f ∈ (session env table g cfg fuel bs).1,
      ∃ msg ∈ sessionMsgs env g fuel bs, ∃ r : Resp, f = responseBytes r ∧ r.messageID = msg.id := by
  intro f hf
  rw [session_frames, List.mem_flatMap] at hf
  obtain ⟨msg, hm, hf⟩ := hf
  exact ⟨msg, hm, framesFor_ids table g cfg msg f hf⟩


/-! ### pipelining clients: the sequential answers, interleaved frame-wise (composition with C05) -/

/-- request number `w` of a pipeline is answered by its own writer (conn.go dispatches every
    request other than StartTLS and Unbind to its own goroutine) -/
def pipelineFrames (table : Option (List (Bytes × Nat))) (g : Guards) (cfg : Cfg) (msgs : List Msg) : Nat → List Bytes :=
  fun w => match msgs[w]? with
    | some m => framesFor table g cfg m
    | none => []

/-- **Whatever the schedule of the handlers of a pipeline:** once they are all done, the wire
    holds whole frames only, and the frames of request `w` are exactly the frames the sequential
    model writes for it, each once and in their order - the stream differs from the lock-step
    session only in how the per-request frame lists are interleaved. Every frame carries the
    message id of the request whose handler wrote it. -/
theorem pipelined_session (table) (g : Guards) (cfg : Cfg) (msgs : List Msg)
    (ls : List (Nat × Nat)) (s : Writer.WS)
    (hr : Writer.run Writer.good (Writer.init (pipelineFrames table g cfg msgs)) ls = some s)
    (hfree : s.mutex = none) (hdone : ∀ w, s.todo w = []) :
    s.wire = Writer.flat s.done ∧
    (∀ w, Writer.doneOf s w = pipelineFrames table g cfg msgs w) ∧
    (∀ e ∈ s.done, ∃ m r, msgs[e.1]? = some m ∧ e.2 = responseBytes r ∧ r.messageID = m.id) := by
  obtain ⟨h1, h2⟩ := Writer.C05_quiescent (pipelineFrames table g cfg msgs) ls s hr hfree hdone
  refine ⟨h1, h2, fun e he => ?_⟩
  -- a frame writer `e.1` completed is one of the frames of request `e.1`
  have hmem : e.2 ∈ pipelineFrames table g cfg msgs e.1 :=
    h2 e.1 ▸ List.mem_map.mpr ⟨e, List.mem_filter.mpr ⟨he, decide_eq_true rfl⟩, rfl⟩
  unfold pipelineFrames at hmem
  split at hmem
  next m hm =>
    obtain ⟨r, hr1, hr2⟩ := framesFor_ids table g cfg m e.2 hmem
    exact ⟨m, r, hm, hr1, hr2⟩
  next => nomatch hmem

/-! ### what a request is answered with, from the mux's choice -/

/-- the mux invokes handler `h`: the answer is what `h`'s script writes -/
theorem respondR_of_serve {table} {g : Guards} {cfg : Cfg} {msg : Msg} {h : Nat}
    (hs : serve table (Mux.build cfg.regs) msg = [.invoke h]) :
    respondR table g cfg msg = runScript g msg.id (cfg.script h msg) := by
  simp [respondR, hs, effectResps]

/-! ### the built-in refusal on the wire -/

/-- no route matches and there is no default route: exactly one frame, gldap's refusal, with
    the request's id, unwillingToPerform and the response tag that belongs to the operation -/
theorem respond_refusal (table) (htable : tableOK table = true) (g : Guards) (cfg : Cfg) (msg : Msg)
    (h1 : ∀ p ∈ (Mux.build cfg.regs).routes, matchesRoute p.1 msg = false) (h2 : (Mux.build cfg.regs).dflt = none) :
    respondR table g cfg msg = [refusal msg.id (responseTagOf msg) ResultUnwillingToPerform] := by
  have h := C03_refusal table htable (Mux.build cfg.regs) msg h1 h2
  simp [respondR, h, effectResps, ResultUnwillingToPerform]

/-! ### the client's view of a whole conversation -/

/-- all responses written during a conversation, request by request -/
def conversation (table : Option (List (Bytes × Nat))) (g : Guards) (cfg : Cfg) (dec : CReq → Bytes) (rs : List CReq) : List Resp :=
  rs.flatMap (fun r => respondR table g cfg (expected (dec r) r))

theorem conversation_frames (table) (g : Guards) (cfg : Cfg) (dec : CReq → Bytes) (rs : List CReq) :
    rs.flatMap (fun r => respond table g cfg (expected (dec r) r)) =
      (conversation table g cfg dec rs).map responseBytes :=
  List.map_flatMap.symm

theorem serAll_map_packetOf (rs : List Resp) : serAll (rs.map packetOf) = (rs.map responseBytes).flatten := by
  rw [serAll_eq_flatten, List.map_map]; rfl

/-- **The stream a client reads back is a sequence of whole LDAPMessages, one per response
    written, in request order.** A strict reader of the concatenated output of the whole
    session recovers exactly the response packets, none torn, merged, lost or duplicated. -/
theorem session_client_stream (env : Env) (table) (g : Guards) (cfg : Cfg) (tt : UInt8) (htt : tt ≠ 0)
    (dec : CReq → Bytes) (rs : List CReq) (hs : ∀ r ∈ rs, Sendable env tt dec r)
    (hu : ∀ r ∈ rs, r.isUnbind = false)
    (hresp : ∀ r ∈ conversation table g cfg dec rs, (packetOf r).WF env.ext) :
    readAll env.ext ((conversation table g cfg dec rs).length + 1)
      (session env table g cfg (rs.length + 1) (wire tt rs)).1.flatten =
      some ((conversation table g cfg dec rs).map packetOf) := by
  have := readAll_serAll env.ext ((conversation table g cfg dec rs).map packetOf) (List.forall_mem_map.mpr hresp)
  rw [List.length_map, serAll_map_packetOf, ← conversation_frames] at this
  rw [session_complete env table g cfg tt htt dec rs hs hu 1]
  exact this

theorem session_current (env : Env) (cfg : Cfg) (tt : UInt8) (htt : tt ≠ 0)
    (dec : CReq → Bytes) (rs : List CReq) (hs : ∀ r ∈ rs, Sendable env tt dec r)
    (hu : ∀ r ∈ rs, r.isUnbind = false) (id : Int) (hid : Int64 id)
    (hber : (clientEncode tt (.unbind id)).WF env.ext) (fuel : Nat) (rest : Bytes) :
    session env Generated.refusalTable Generated.guards cfg (rs.length + (fuel + 1))
        (wire tt rs ++ (ser (clientEncode tt (.unbind id)) ++ rest)) =
      (rs.flatMap (fun r => respond Generated.refusalTable Generated.guards cfg (expected (dec r) r)) ++
        respondUnbind Generated.guards cfg id, .unbind) :=
  session_requests_then_unbind env _ _ cfg tt htt dec rs hs hu id hid hber fuel rest

/-! ### non-vacuity: a concrete conversation, evaluated -/

def demoCfg : Cfg :=
  { regs := [.route .bind 0, .route (.extended [49, 46, 50]) 1, .unbind 2],
    script := fun k _ =>
      if k = 0 then [⟨.bind, [.code 0], []⟩]
      else if k = 1 then [⟨.extended, [.code 0], [.code 2]⟩, ⟨.general, [.appCode 25], []⟩]
      else [] }

def demoEnv : Env := { ext := fun _ _ => true, decompile := fun _ => none }

/-- bind (id 1), extended "1.2" (id 2), delete (id 3, no route: refused with DelResponse),
    unbind (id 4), then a further bind that is never served -/
example :
    let rs : List CReq := [.bind 1 [99] [112] [], .extended 2 [49, 46, 50], .delete 3 [99] []]
    let input := wire 255 rs ++ (ser (clientEncode 255 (.unbind 4)) ++ ser (clientEncode 255 (.bind 5 [99] [112] [])))
    let out := session demoEnv (some [(deleteRouteOperation, 11)]) allGuards demoCfg 10 input
    out.2 = .unbind ∧ out.1.length = 4 ∧
      out.1.map (fun f => (readPacket demoEnv.ext f).bind (fun p => (readResponse demoEnv.ext p.1).map (fun v => (v.messageID, v.tag)))) =
        [some (1, 1), some (2, 24), some (2, 25), some (3, 11)] := by
  decide +kernel

end Gldap.Session
