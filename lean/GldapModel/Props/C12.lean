import GldapModel.Proofs.ServerGood
import GldapModel.Generated.Facts
/-! # C12 - when Stop returns the server is quiescent and its port is released -/
namespace Server

/-- already when Stop alone has returned, every accepted connection is completely torn down -/
theorem C12_stop_returned (n : Nat) (ls : List Label) (s : Srv) (hr : run goodFacts (init n) ls = some s)
    (hstop : ∃ p ∈ s.stops, p = .returned) : ∀ c ∈ s.conns, c.gor = .gone := by
  obtain ⟨_, hp, rfl⟩ := hstop
  exact ((inv_of_run hr).g.stops .returned hp).2

/-- For every interleaving of any number of Stop calls with Run's listen / accept / spawn steps,
    traffic, handler progress and teardown steps: once some Stop has returned and Run has
    returned, the listener is not open and every accepted connection's goroutine is gone, with no
    handler running, exactly one socket close and exactly one completed OnClose. Stop before Run and
    repeated Stop are covered (any number of Stop calls, in any position). -/
theorem C12_quiescent (n : Nat) (ls : List Label) (s : Srv) (hr : run goodFacts (init n) ls = some s)
    (hstop : ∃ p ∈ s.stops, p = .returned) (hrun : ∃ e, s.run = .returned e) :
    s.lst ≠ .open ∧ ∀ c ∈ s.conns, c.gor = .gone ∧ c.live = 0 ∧ c.netClosed = 1 ∧ c.onClosed = 1 := by
  have h := (inv_of_run hr).g
  obtain ⟨e, he⟩ := hrun
  refine ⟨h.lst e he, fun c hc => ?_⟩
  have hg := C12_stop_returned n ls s hr hstop c hc
  have := h.conns c hc
  simp only [ConnOK, hg] at this
  exact ⟨hg, this.2.2, this.1, this.2.1⟩

theorem C12_current_facts : Gldap.Generated.serverFacts = goodFacts := by decide

theorem C12_current (n : Nat) (ls : List Label) (s : Srv)
    (hr : run Gldap.Generated.serverFacts (init n) ls = some s)
    (hstop : ∃ p ∈ s.stops, p = .returned) (hrun : ∃ e, s.run = .returned e) :
    s.lst ≠ .open ∧ ∀ c ∈ s.conns, c.gor = .gone ∧ c.live = 0 ∧ c.netClosed = 1 ∧ c.onClosed = 1 := by
  rw [C12_current_facts] at hr
  exact C12_quiescent n ls s hr hstop hrun

/-! ### the pinned tree violates it three ways (kernel-checked traces) -/

/-- `connWg.Done()` first: Stop returns before the close and OnClose -/
theorem C12_counterexample_doneFirst :
    (run pinnedFacts (init 1) [.runListen true, .runLoopTop, .runAcceptOk, .runSpawn, .runLoopTop,
      .connExit 1, .teardown 1, .stopStep 0, .stopStep 0, .stopStep 0, .stopStep 0, .runAcceptClosed]).map
      (fun s => (bothReturned s, quiescent s)) = some (true, false) := by decide

/-- Stop before Run: the port stays bound after both returned -/
theorem C12_counterexample_stopBeforeRun :
    (run pinnedFacts (init 1) [.stopStep 0, .stopStep 0, .stopStep 0, .stopStep 0, .runListen true, .runLoopTop]).map
      (fun s => (bothReturned s, s.lst)) = some (true, .open) := by decide

/-- `connWg.Add(1)` for a just-accepted connection after Stop's `Wait` -/
theorem C12_counterexample_addAfterWait :
    (run pinnedFacts (init 1) [.runListen true, .runLoopTop, .runAcceptOk, .stopStep 0, .stopStep 0, .stopStep 0,
      .stopStep 0, .runSpawn, .runLoopTop]).map (fun s => (bothReturned s, quiescent s)) = some (true, false) := by decide

end Server
