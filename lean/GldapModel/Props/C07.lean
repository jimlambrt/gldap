import GldapModel.Proofs.ServerGeneric
import GldapModel.Generated.Facts
/-! # C07 - a failure on one connection or request never takes the server down (the logic part)

Go's rule: a panic that is not recovered on its own goroutine's stack kills the process. The
model has one label per fault: `handlerPanic c` (a handler on its own goroutine), `connPanic c`
(gldap's own decoding or an inline handler on the connection goroutine), `connExit c` (reset,
truncated frame, failed write), `runAcceptErr` (descriptor exhaustion at accept). -/
namespace Server

/-- If every goroutine that runs handler or decode code defers a recover, then whatever faults
    are injected, wherever, in whatever order and amid whatever traffic, the process stays alive. -/
theorem C07_survives (F : Facts) (hc : F.recoverOnConn = true) (hr : F.recoverOnRequest = true)
    (n : Nat) (ls : List Label) (s : Srv) (h : run F (init n) ls = some s) : s.alive = true :=
  (isRun F).invariant (I := fun t => t.alive = true)
    (fun h hs => ((step_cases hs).resolve_right fun hd => hd.1 ⟨hc, hr⟩).alive.trans h) h rfl

/-- a fault on connection c leaves every other connection's state untouched -/
theorem C07_others_untouched (F : Facts) (s s' : Srv) (c : Nat) (l : Label)
    (hl : l = .handlerPanic c ∨ l = .connPanic c ∨ l = .connExit c) (hs : step F s l = some s') :
    ∀ x ∈ s.conns, x.id ≠ c → x ∈ s'.conns := by
  intro x hx hne
  rcases step_cases hs with h | ⟨_, rfl⟩
  · -- `l.core` is `handlerEnd c` or `connExit c`: a step of connection `c`, which `modConn` maps over the others
    rcases hl with rfl | rfl | rfl <;> cases h with
      | conn _ hc => cases hc; exact List.mem_map.mpr ⟨x, hx, if_neg hne⟩
  · exact hx

/-- an accept error does not end the accept loop (when the source `continue`s) -/
theorem C07_accept_error_tolerated (F : Facts) (hF : F.acceptErrContinues = true) (s s' : Srv)
    (hs : step F s .runAcceptErr = some s') : s'.run = .loopTop := by
  cases CoreStep.of_stepCore (show stepCore F s .runAcceptErr = _ from hs) with
  | acceptErr => exact if_pos hF
  | conn _ hc => cases hc

/-- the pinned tree: a panic in a search handler kills the process (no recover on the request goroutine) -/
theorem C07_counterexample_handler :
    (run pinnedFacts (init 0) [.runListen true, .runLoopTop, .runAcceptOk, .runSpawn, .handlerStart 1, .handlerPanic 1]).map
      (·.alive) = some false := by decide

/-- the pinned tree: a non-"closed" accept error makes Run return -/
theorem C07_counterexample_accept :
    (run pinnedFacts (init 0) [.runListen true, .runLoopTop, .runAcceptErr]).map (·.run) = some (.returned true) := by decide

theorem C07_current (n : Nat) (ls : List Label) (s : Srv) (h : run Gldap.Generated.serverFacts (init n) ls = some s) :
    s.alive = true := C07_survives _ (by decide) (by decide) n ls s h

end Server
