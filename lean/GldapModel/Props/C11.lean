import GldapModel.Proofs.ServerMeasure
import GldapModel.Generated.Facts
/-! # C11 - Stop returns in bounded time whatever clients are doing (the logic part)

"No client cooperation is needed": steps are split into *server-only* labels (the server's own
code, handlers returning, the teardown, and the exit of a read loop caused by the cancelled
context) and the rest (clients sending, closing, connecting; faults). The theorem is progress:
while some Stop call has not returned, a server-only step is enabled - in every reachable state,
so whatever the clients did before and whatever they refrain from doing now. Wall-clock time is
outside the model (partial): the bound is "a server-only step is always available", seconds are
measured by the harness. -/
namespace Server

/-- a Stop call inside its sequence can take its next step, unless that is `waitConns` with connections left -/
theorem stop_enabled {F : Facts} {s : Srv} {i k : Nat} {op : SStep} (hi : s.stops[i]? = some (.at k))
    (hop : F.stopSeq[k]? = some op) (hw : op = .waitConns → s.connWg = 0) :
    (stepCore F s (.stopStep i)).isSome = true := by
  rw [stepCore, hi]
  simp only [hop]
  cases op
  · rfl
  · rfl
  · rw [if_pos (hw rfl)]; rfl

/-- a connection inside its teardown can take the next step, unless that is a `connClose` that waits for handlers -/
theorem teardown_enabled {F : Facts} {s : Srv} {c k : Nat} {x : Conn} {op : TStep} (hf : findConn s.conns c = some x)
    (hk : x.gor = .exited k) (hop : F.teardownSeq[k]? = some op)
    (hw : op = .connClose → ¬(F.connCloseWaitsHandlers = true ∧ x.live > 0)) :
    (stepCore F s (.teardown c)).isSome = true := by
  rw [stepCore, hf]
  simp only [hk, hop]
  cases op
  · rfl
  · rw [if_neg (hw rfl)]; rfl
  · rfl

/-- progress from any state that satisfies the invariant -/
theorem progress_of_inv {s : Srv} (h : Inv s) {i k : Nat} (hi : s.stops[i]? = some (.at k)) :
    ∃ l, l.serverOnly = true ∧ (step goodFacts s l).isSome = true := by
  obtain ⟨hk, hpast⟩ := h.g.stops _ (List.mem_of_getElem? hi)
  obtain ⟨op, hop⟩ : ∃ op, goodFacts.stopSeq[k]? = some op := ⟨_, List.getElem?_eq_getElem hk⟩
  by_cases hw : op = .waitConns → s.connWg = 0
  · exact ⟨.stopStep i, rfl, stop_enabled hi hop hw⟩
  -- Stop is at its Wait with connections left: the context is cancelled, and a connection that is not gone can move
  obtain ⟨rfl, hne⟩ := Classical.not_imp.mp hw
  obtain rfl := idx_unique good_stop_nodup hop (j := 2) rfl
  have hcanc := hpast (Nat.le_refl 2)
  obtain ⟨c, hcm, hg⟩ : ∃ c ∈ s.conns, c.gor ≠ .gone :=
    Classical.byContradiction fun hn => hne (h.g.wg ▸ sum_notGone_eq_zero.mpr fun c hm =>
      Classical.byContradiction fun hg => hn ⟨c, hm, hg⟩)
  have hf := findConn_of_mem h.i.nodup hcm
  cases hgor : c.gor with
  | gone => exact absurd hgor hg
  | serving => exact ⟨.connExitShutdown c.id, rfl, by simp [step, stepCore, hcanc, goodFacts, hf, hgor]⟩
  | exited j =>
    by_cases hl : c.live > 0
    · exact ⟨.handlerEnd c.id, rfl, by simp [step, stepCore, hf, hl]⟩
    · obtain ⟨op, hop⟩ : ∃ op, goodFacts.teardownSeq[j]? = some op :=
        ⟨_, List.getElem?_eq_getElem ((h.g.conns c hcm).exited_lt hgor)⟩
      exact ⟨.teardown c.id, rfl, teardown_enabled hf hgor hop fun _ hh => hl hh.2⟩

/-- Progress: in every state reachable under the repaired facts, if some Stop call is in
    progress then a server-only step is enabled. Hence Stop cannot be kept from returning by a
    client that merely holds a connection open, sends half a frame, never starts its TLS
    handshake or never reads. -/
theorem C11_progress (n : Nat) (ls : List Label) (s : Srv) (hr : run goodFacts (init n) ls = some s)
    (i k : Nat) (hi : s.stops[i]? = some (.at k)) :
    ∃ l, l.serverOnly = true ∧ (step goodFacts s l).isSome = true :=
  progress_of_inv (inv_of_run hr) hi

/-- the pinned tree: an idle connection blocks Stop for ever - Stop is at its Wait, the connection
    is still serving, and no server-only step is enabled -/
theorem C11_counterexample :
    (run pinnedFacts (init 1) [.runListen true, .runLoopTop, .runAcceptOk, .runSpawn, .runLoopTop,
      .stopStep 0, .stopStep 0, .stopStep 0]).map
      (fun s => (s.stops, (step pinnedFacts s (.stopStep 0)).isSome, (step pinnedFacts s (.connExitShutdown 1)).isSome,
        (step pinnedFacts s (.teardown 1)).isSome, (step pinnedFacts s (.handlerEnd 1)).isSome,
        (step pinnedFacts s .runAcceptClosed).isSome)) =
      some ([.at 2], false, false, false, false, true) := by decide

/-- Bounded: from any reachable state, whatever the clients did before, the server's own steps (its code,
    handlers returning, teardowns, read loops ending because of the cancelled context) can follow one
    another at most `mu s` times - a number read off the state: 4 per Stop not yet called, 3 - k per Stop in
    progress, a few for Run, and for every connection its running handlers plus at most 4. -/
theorem C11_bounded (n : Nat) (ls : List Label) (s : Srv) (hr : run goodFacts (init n) ls = some s)
    (ls' : List Label) (s' : Srv) (hl : ∀ l ∈ ls', l.serverOnly = true) (hr' : run goodFacts s ls' = some s') :
    ls'.length ≤ mu s := by
  have := mu_run ls' s s' (inv_of_run hr) hl hr'
  omega

/-- Terminates: when the server's own steps have run out (none is enabled any more), no Stop call is still in
    progress. Together with `C11_bounded`: once Stop has been called, and without any help from the clients,
    Stop returns after at most `mu s` steps of the server. -/
theorem C11_terminates (n : Nat) (ls : List Label) (s : Srv) (hr : run goodFacts (init n) ls = some s)
    (ls' : List Label) (s' : Srv) (hr' : run goodFacts s ls' = some s')
    (hmax : ∀ l, l.serverOnly = true → step goodFacts s' l = none) :
    ∀ (i k : Nat), s'.stops[i]? ≠ some (StopPc.at k) := by
  intro i k hi
  obtain ⟨l, hso, hen⟩ := progress_of_inv ((isRun _).invariant inv_step hr' (inv_of_run hr)) hi
  rw [hmax l hso] at hen
  cases hen

/-- the bound on a concrete state: Run accepting, one Stop at its Wait, one idle connection and one connection with
    two handlers running - at most 12 more steps of the server -/
example : (run goodFacts (init 1) [.runListen true, .runLoopTop, .runAcceptOk, .runSpawn, .runLoopTop, .runAcceptOk, .runSpawn,
    .handlerStart 2, .handlerStart 2, .runLoopTop, .stopStep 0, .stopStep 0, .stopStep 0]).map mu = some 12 := by decide

theorem C11_current_facts : Gldap.Generated.serverFacts = goodFacts := by decide

theorem C11_current (n : Nat) (ls : List Label) (s : Srv) (hr : run Gldap.Generated.serverFacts (init n) ls = some s)
    (i k : Nat) (hi : s.stops[i]? = some (.at k)) :
    ∃ l, l.serverOnly = true ∧ (step Gldap.Generated.serverFacts s l).isSome = true := by
  rw [C11_current_facts] at hr ⊢
  exact C11_progress n ls s hr i k hi

theorem C11_current_bounded (n : Nat) (ls : List Label) (s : Srv) (hr : run Gldap.Generated.serverFacts (init n) ls = some s)
    (ls' : List Label) (s' : Srv) (hl : ∀ l ∈ ls', l.serverOnly = true) (hr' : run Gldap.Generated.serverFacts s ls' = some s') :
    ls'.length ≤ mu s ∧
    ((∀ l, l.serverOnly = true → step Gldap.Generated.serverFacts s' l = none) → ∀ (i k : Nat), s'.stops[i]? ≠ some (StopPc.at k)) := by
  rw [C11_current_facts] at hr hr' ⊢
  exact ⟨C11_bounded n ls s hr ls' s' hl hr', C11_terminates n ls s hr ls' s' hr'⟩

end Server
