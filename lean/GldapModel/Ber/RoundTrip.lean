import GldapModel.Ber.Parse
/-! The unbounded BER round trip: the reader model applied to the canonical serialisation of
    any well-formed tree returns that tree and the untouched rest of the stream. No bound on
    depth, width or content size (beyond asn1-ber's own 2^31-1 cap on primitive content). -/
namespace Ber

mutual
def Node.WF (ext : Nat → Bytes → Bool) : Node → Prop
  | .prim c t content => c < 4 ∧ t < 31 ∧ content.length ≤ maxPrim ∧ primOK ext c t content = true
  | .cons c t kids => c < 4 ∧ t < 31 ∧ (serAll kids).length < 2^63 ∧ WFAll ext kids
def WFAll (ext : Nat → Bytes → Bool) : List Node → Prop
  | [] => True
  | n :: ns => n.WF ext ∧ isEOC n = false ∧ WFAll ext ns
end

/-- the identifier octet of a low tag number: class in bits 8-7, constructed flag in bit 6, tag below -/
theorem identOctet {c t x : Nat} {k : Bool} (hc : c < 4) (ht : t < 32)
    (hx : x = c * 64 + (if k then 32 else 0) + t) :
    x < 256 ∧ x / 64 = c ∧ x % 32 = t ∧ x / 32 % 2 = if k then 1 else 0 := by
  cases k
  · rw [if_neg Bool.false_ne_true] at hx ⊢; omega
  · rw [if_pos rfl] at hx ⊢; omega

theorem readIdent_encId (c t : Nat) (k : Bool) (rest : Bytes) (hc : c < 4) (ht : t < 31) :
    readIdent (encId c k t ++ rest) = some (c, k, t, rest) := by
  obtain ⟨h0, h1, h2, h3⟩ := identOctet hc (Nat.lt_succ_of_lt ht) (k := k) rfl
  rw [encId, if_pos ht, List.singleton_append, readIdent, toUInt8_toNat h0, h1, h2, h3,
    if_pos (bne_iff_ne.mpr (Nat.ne_of_lt ht))]
  cases k <;> rfl

theorem readLen_encLen (n : Nat) (rest : Bytes) (h : n < 2^63) :
    readLen (encLen n ++ rest) = some (some n, rest) := by
  obtain ⟨h1, hn, e⟩ | ⟨b, d, hb, hp, hl, hv, e⟩ := encLen_shape n h
  · rw [e, List.singleton_append, readLen, hn, if_neg (by rw [beq_iff_eq]; omega),
      if_neg (by rw [beq_iff_eq]; omega), if_pos h1]
  · have h5 : ¬ (d ++ rest).length < d.length := by rw [List.length_append]; omega
    rw [e, List.cons_append, readLen, hb, if_neg (by rw [beq_iff_eq]; omega),
      if_neg (by rw [beq_iff_eq]; omega), if_neg (by omega), Nat.add_sub_cancel_left,
      if_neg (by omega), if_neg h5, List.take_left' rfl, List.drop_left' rfl, hv, if_pos h]

theorem encId_length_pos (c t : Nat) (k : Bool) : 1 ≤ (encId c k t).length := by
  unfold encId; by_cases h : t < 31 <;> simp [h]

theorem encLen_length_pos (n : Nat) : 1 ≤ (encLen n).length := by
  unfold encLen; split <;> simp

theorem ser_length_ge_two (n : Node) : 2 ≤ (ser n).length := by
  cases n with
  | prim c t content =>
    have := encId_length_pos c t false
    have := encLen_length_pos content.length
    simp only [ser, List.length_append]; omega
  | cons c t kids =>
    have := encId_length_pos c t true
    have := encLen_length_pos (serAll kids).length
    simp only [ser, List.length_append]; omega

mutual
theorem parse_ser (ext : Nat → Bytes → Bool) (n : Node) (rest : Bytes) (fuel : Nat) (hw : n.WF ext)
    (hf : 2 * (ser n).length + 1 ≤ fuel) : parse ext fuel (ser n ++ rest) = some (n, rest) := by
  match n, fuel with
  | _, 0 => omega
  | .prim c t content, fuel+1 =>
    obtain ⟨hc, ht, hl, hok⟩ := hw
    have hlen := readLen_encLen content.length (content ++ rest) (Nat.lt_of_le_of_lt hl (by decide))
    have hmax : ¬ content.length > maxPrim := Nat.not_lt.mpr hl
    have hfits : ¬ (content ++ rest).length < content.length := by rw [List.length_append]; omega
    simp only [ser, List.append_assoc, parse, readIdent_encId c t false _ hc ht, hlen, hmax, hfits,
      List.take_left' rfl, List.drop_left' rfl, hok, Bool.false_eq_true, ↓reduceIte]
  | .cons c t kids, fuel+1 =>
    obtain ⟨hc, ht, hl, hk⟩ := hw
    -- the header takes two bytes or more, which pays for the `+ 2` of the children's fuel
    have := encId_length_pos c t true
    have := encLen_length_pos (serAll kids).length
    simp only [ser, List.length_append] at hf
    simp only [ser, List.append_assoc, parse, readIdent_encId c t true _ hc ht, readLen_encLen _ _ hl,
      kidsDef_serAll ext kids rest fuel hk (by omega), ↓reduceIte]
theorem kidsDef_serAll (ext : Nat → Bytes → Bool) (ns : List Node) (rest : Bytes) (fuel : Nat) (hw : WFAll ext ns)
    (hf : 2 * (serAll ns).length + 2 ≤ fuel) :
    kidsDef ext fuel (serAll ns).length (serAll ns ++ rest) = some (ns, rest) := by
  match ns, fuel with
  | _, 0 => omega
  | [], fuel+1 => rfl
  | n :: ns, fuel+1 =>
    obtain ⟨hn, he, hns⟩ := hw
    have := ser_length_ge_two n
    simp only [serAll, List.length_append] at hf ⊢
    have hpos : ¬ ((ser n).length + (serAll ns).length == 0) = true := by rw [beq_iff_eq]; omega
    have hle : ¬ (ser n).length > (ser n).length + (serAll ns).length := Nat.not_lt.mpr (Nat.le_add_right ..)
    simp only [kidsDef, List.append_assoc, hpos, parse_ser ext n _ fuel hn (by omega), length_append_sub, he,
      hle, Nat.add_sub_cancel_left, kidsDef_serAll ext ns rest fuel hns (by omega), Bool.false_eq_true,
      ↓reduceIte]
end

/-- the reader recovers any well-formed tree from its canonical bytes, leaving the rest of
    the stream untouched -/
theorem readPacket_ser (ext : Nat → Bytes → Bool) (n : Node) (rest : Bytes) (hw : n.WF ext) :
    readPacket ext (ser n ++ rest) = some (n, rest) := by
  unfold readPacket fuelFor
  exact parse_ser ext n rest _ hw (by simp only [List.length_append]; omega)

/-- a client reading whole messages one after another from a stream -/
def readAll (ext : Nat → Bytes → Bool) : Nat → Bytes → Option (List Node)
  | 0, _ => none
  | _+1, [] => some []
  | fuel+1, b :: bs =>
    match readPacket ext (b :: bs) with
    | none => none
    | some (n, rest) => (readAll ext fuel rest).map (n :: ·)

theorem readAll_serAll_of_le (ext : Nat → Bytes → Bool) (ns : List Node) (hw : ∀ n ∈ ns, n.WF ext)
    (fuel : Nat) (hf : ns.length ≤ fuel) : readAll ext (fuel + 1) (serAll ns) = some ns := by
  induction ns generalizing fuel with
  | nil => rfl
  | cons n ns ih =>
    have := ser_length_ge_two n
    obtain ⟨b, bs, hs⟩ := List.exists_cons_of_length_pos (l := ser n ++ serAll ns)
      (by rw [List.length_append]; omega)
    obtain ⟨fuel, rfl⟩ : ∃ f, fuel = f + 1 := ⟨fuel - 1, by rw [List.length_cons] at hf; omega⟩
    -- `readAll` unfolds on a stream shown non-empty, hence to the cons form and back
    rw [serAll, hs, readAll, ← hs, readPacket_ser ext n _ (hw n List.mem_cons_self)]
    simp only [ih (fun m hm => hw m (List.mem_cons_of_mem n hm)) fuel (Nat.le_of_succ_le_succ hf),
      Option.map_some]

/-- reading a concatenation of well-formed messages returns exactly those messages, in order:
    none torn, merged, lost or duplicated -/
theorem readAll_serAll (ext : Nat → Bytes → Bool) (ns : List Node) (hw : ∀ n ∈ ns, n.WF ext) :
    readAll ext (ns.length + 1) (serAll ns) = some ns :=
  readAll_serAll_of_le ext ns hw _ (Nat.le_refl _)

end Ber
