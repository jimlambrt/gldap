/-! Bytes and big-endian base-256 numerals (asn1-ber `encodeUnsignedInteger`). -/
namespace Ber

abbrev Bytes := List UInt8

theorem length_append_sub (p s : Bytes) : (p ++ s).length - s.length = p.length := by
  rw [List.length_append, Nat.add_sub_cancel]

/-- big-endian base-256 digits, minimal, at least one digit (`encodeUnsignedInteger`) -/
def natBE (n : Nat) : Bytes :=
  if h : n < 256 then [n.toUInt8] else natBE (n / 256) ++ [(n % 256).toUInt8]
decreasing_by omega

def beNat (bs : Bytes) : Nat := bs.foldl (fun acc b => acc * 256 + b.toNat) 0

theorem toUInt8_toNat {n : Nat} (h : n < 256) : n.toUInt8.toNat = n := UInt8.toNat_ofNat_of_lt' h

theorem beNat_snoc (a : Bytes) (b : UInt8) : beNat (a ++ [b]) = beNat a * 256 + b.toNat := by
  simp [beNat, List.foldl_append]

theorem beNat_natBE (n : Nat) : beNat (natBE n) = n := by
  fun_induction natBE n with
  | case1 n h => rw [← List.nil_append [_], beNat_snoc, toUInt8_toNat h]; exact Nat.zero_add n
  | case2 n h ih => rw [beNat_snoc, ih, toUInt8_toNat (Nat.mod_lt n (by decide)), Nat.div_add_mod']

theorem natBE_length_pos (n : Nat) : 0 < (natBE n).length := by
  unfold natBE; split <;> simp

theorem natBE_length_le (n k : Nat) (h : n < 256 ^ (k + 1)) : (natBE n).length ≤ k + 1 := by
  fun_induction natBE n generalizing k with
  | case1 => exact Nat.le_add_left 1 k
  | case2 n hn ih =>
    cases k with
    | zero => exact absurd h hn
    | succ k =>
      rw [List.length_append]
      exact Nat.succ_le_succ (ih k (by rw [Nat.pow_succ] at h; omega))

end Ber
