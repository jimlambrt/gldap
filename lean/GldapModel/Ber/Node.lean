import GldapModel.Ber.Basic
/-! The BER tree as `ber.ReadPacket` delivers it, and asn1-ber's canonical serialisation
    (`Packet.Bytes`: identifier octets, minimal definite length, content). -/
namespace Ber

inductive Node where
  | prim (cls : Nat) (tag : Nat) (content : Bytes)
  | cons (cls : Nat) (tag : Nat) (kids : List Node)
  deriving Repr, Inhabited

def Node.cls : Node → Nat | .prim c _ _ => c | .cons c _ _ => c
def Node.tag : Node → Nat | .prim _ t _ => t | .cons _ t _ => t
def Node.constructed : Node → Bool | .prim .. => false | .cons .. => true
def Node.kids : Node → List Node | .prim .. => [] | .cons _ _ ks => ks

/-- `encodeLength` -/
def encLen (n : Nat) : Bytes :=
  if n ≤ 127 then [n.toUInt8] else
    let d := natBE n
    (0x80 + d.length).toUInt8 :: d

/-- the two forms of `encLen`: one byte below 128, else a count byte and at most 8 digits -/
theorem encLen_shape (n : Nat) (h : n < 2^63) :
    (n < 128 ∧ n.toUInt8.toNat = n ∧ encLen n = [n.toUInt8]) ∨
    ∃ b d, b.toNat = 128 + d.length ∧ 0 < d.length ∧ d.length ≤ 8 ∧ beNat d = n ∧ encLen n = b :: d := by
  unfold encLen
  split
  · exact .inl ⟨by omega, toUInt8_toNat (by omega), rfl⟩
  · have hl := natBE_length_le n 7 (Nat.lt_trans h (by decide))
    exact .inr ⟨_, _, toUInt8_toNat (by omega), natBE_length_pos n, hl, beNat_natBE n, rfl⟩

/-- continuation digits of `encodeHighTag` (all but the last, each with bit 8 set) -/
def hiCont (m : Nat) : Bytes :=
  if h : m = 0 then [] else hiCont (m / 128) ++ [(128 + m % 128).toUInt8]
decreasing_by omega

def highTag (t : Nat) : Bytes := hiCont (t / 128) ++ [(t % 128).toUInt8]

/-- `encodeIdentifier`; `cls` is the class number 0..3 -/
def encId (cls : Nat) (constructed : Bool) (tag : Nat) : Bytes :=
  let b := cls * 64 + (if constructed then 32 else 0)
  if tag < 31 then [(b + tag).toUInt8] else (b + 31).toUInt8 :: highTag tag

mutual
def ser : Node → Bytes
  | .prim c t content => encId c false t ++ encLen content.length ++ content
  | .cons c t kids => let body := serAll kids; encId c true t ++ encLen body.length ++ body
def serAll : List Node → Bytes
  | [] => []
  | n :: ns => ser n ++ serAll ns
end

/-- `Packet.Data` of a packet read from the wire: primitive content, or the canonical
    re-serialisation of the children (what `AppendChild` accumulates). -/
def Node.data : Node → Bytes | .prim _ _ c => c | .cons _ _ ks => serAll ks

theorem serAll_append (a b : List Node) : serAll (a ++ b) = serAll a ++ serAll b := by
  induction a with
  | nil => simp [serAll]
  | cons x xs ih => simp [serAll, ih]

theorem serAll_eq_flatten (ns : List Node) : serAll ns = (ns.map ser).flatten := by
  induction ns with
  | nil => rfl
  | cons n ns ih => simp [serAll, ih]

end Ber
