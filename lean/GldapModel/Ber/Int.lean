import GldapModel.Ber.Basic
namespace Ber

def posLen : Nat → Int → Nat
  | 0, _ => 1
  | f+1, i => if i > 127 then 1 + posLen f (i / 256) else 1
def negLen : Nat → Int → Nat
  | 0, _ => 1
  | f+1, i => if i < -128 then 1 + negLen f (i / 256) else 1
def int64Length (i : Int) : Nat :=
  if i > 127 then posLen 8 i else negLen 8 i

def byteOf (i : Int) : UInt8 := (i % 256).toNat.toUInt8
theorem byteOf_toNat (i : Int) : ((byteOf i).toNat : Int) = i % 256 := by
  rw [byteOf, toUInt8_toNat (by omega)]; omega

def encBE : Nat → Int → Bytes
  | 0, _ => []
  | n+1, i => encBE n (i / 256) ++ [byteOf i]

def encodeInteger (i : Int) : Bytes := encBE (int64Length i) i

def parseInt64 (bs : Bytes) : Option Int :=
  if bs.length > 8 then none else
  let u : Int := beNat bs
  if bs.length = 0 then some 0
  else if u < 2^(8 * bs.length - 1) then some u else some (u - 2^(8 * bs.length))

theorem encBE_length (n : Nat) (i : Int) : (encBE n i).length = n := by
  induction n generalizing i with
  | zero => rfl
  | succ n ih => simp [encBE, ih]

/-- `encBE n` is two's complement in `n` bytes -/
theorem beNat_encBE (n : Nat) (i : Int) (h : -(256 ^ n) ≤ i ∧ i < 256 ^ n) :
    (beNat (encBE n i) : Int) = if 0 ≤ i then i else i + 256 ^ n := by
  induction n generalizing i with
  | zero => simp [encBE, beNat]; omega
  | succ n ih =>
    rw [Int.pow_succ] at h ⊢
    have := ih (i / 256) (by omega)
    simp only [encBE, beNat_snoc, Int.natCast_add, Int.natCast_mul, byteOf_toNat, this]
    omega

theorem two_pow_pred (k : Nat) : (2 : Int) ^ (8 * (k + 1) - 1) = 128 * 256 ^ k := by
  rw [show 8 * (k + 1) - 1 = 7 + 8 * k by omega, Int.pow_add, Int.pow_mul]; rfl

theorem parse_encBE (k : Nat) (i : Int) (hk : k ≤ 7) (hi : -(128 * 256 ^ k) ≤ i ∧ i < 128 * 256 ^ k) :
    parseInt64 (encBE (k + 1) i) = some i := by
  have hp : (0 : Int) < 256 ^ k := Int.pow_pos (by omega)
  have hb := beNat_encBE (k + 1) i (by rw [Int.pow_succ]; omega)
  rw [Int.pow_succ] at hb
  rw [parseInt64, encBE_length, if_neg (by omega), if_neg (by omega), two_pow_pred, Int.pow_mul,
    show (2 : Int) ^ 8 = 256 from rfl, Int.pow_succ, hb]
  by_cases h0 : 0 ≤ i
  · rw [if_pos h0, if_pos hi.2]
  · rw [if_neg h0, if_neg (by omega)]; congr 1; omega

theorem negLen_eq_posLen (f : Nat) (i : Int) : negLen f i = posLen f (-i - 1) := by
  induction f generalizing i with
  | zero => rfl
  | succ f ih =>
    have : (-i - 1) / 256 = -(i / 256) - 1 := by omega
    simp only [negLen, posLen, ih, this]
    -- the two `if`s agree once their conditions do: `i < -128 ↔ -i - 1 > 127`
    congr 1
    simp only [eq_iff_iff]; omega

/-- with fuel for it, `posLen` is the least number of bytes whose positive range holds `i` -/
theorem posLen_spec (f m : Nat) (i : Int) (hm : m ≤ f) (h : i < 128 * 256 ^ m) :
    ∃ k ≤ m, posLen f i = k + 1 ∧ i < 128 * 256 ^ k := by
  induction f generalizing m i with
  | zero =>
    obtain rfl : m = 0 := by omega
    exact ⟨0, Nat.le_refl _, rfl, h⟩
  | succ f ih =>
    rw [posLen]
    split
    · cases m with
      | zero => simp at h; omega
      | succ m =>
        rw [Int.pow_succ] at h
        obtain ⟨k, hk, hl, hb⟩ := ih m (i / 256) (by omega) (by omega)
        exact ⟨k + 1, by omega, by omega, by rw [Int.pow_succ]; omega⟩
    · exact ⟨0, by omega, rfl, by omega⟩

theorem int64Length_spec (i : Int) (h : -(2^63) ≤ i ∧ i < 2^63) :
    ∃ k ≤ 7, int64Length i = k + 1 ∧ -(128 * 256 ^ k) ≤ i ∧ i < 128 * 256 ^ k := by
  -- `2^63 = 128 * 256^7`: seven bytes beyond the first suffice, and `int64Length` runs with fuel 8
  have h' : -(128 * 256 ^ 7) ≤ i ∧ i < 128 * 256 ^ 7 := h
  unfold int64Length
  split
  · obtain ⟨k, hk, hl, hb⟩ := posLen_spec 8 7 i (by omega) h'.2
    exact ⟨k, hk, hl, by omega, hb⟩
  · obtain ⟨k, hk, hl, hb⟩ := posLen_spec 8 7 (-i - 1) (by omega) (by omega)
    have : (0 : Int) < 256 ^ k := Int.pow_pos (by omega)
    exact ⟨k, hk, negLen_eq_posLen .. ▸ hl, by omega, by omega⟩

theorem encodeInteger_byte (i : Int) (h : -128 ≤ i ∧ i ≤ 127) : encodeInteger i = [byteOf i] := by
  rw [encodeInteger, int64Length, if_neg (by omega), negLen, if_neg (by omega)]; rfl

theorem parseInt64_encodeInteger (i : Int) (h : -(2^63) ≤ i ∧ i < 2^63) :
    parseInt64 (encodeInteger i) = some i := by
  obtain ⟨k, hk, hl, hi⟩ := int64Length_spec i h
  rw [encodeInteger, hl]
  exact parse_encBE k i hk hi

end Ber
