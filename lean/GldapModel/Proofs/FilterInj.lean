import GldapModel.Proofs.FilterRT
/-! # The rendered filter string determines the filter (helper lemmas)

`Filter.render` is what the handler receives (`decompile_encode`). For filters within RFC 4511 / 4515's
grammar (`Filter.WF`: attribute descriptions, matching rules and types made of letters, digits, `-`, `.`
and `;`; substring parts non-empty, `initial` only first, `final` only last; an extensible match with a type
or a rule, the rule not spelled `dn`) it is injective - and more: it is a prefix code
(`render f ++ r = render g ++ r' → f = g ∧ r = r'`), which is what makes lists of filters unambiguous.

Everything is read off the string from the left with one lemma, `split_unique` (a string is cut uniquely at its
first byte with a property `p`), at two properties: "not a plain byte" ends an attribute description, a type or a
matching rule (`plain_cut`), "one of `(` `)` `*`" ends an escaped value (`escape_cut`). Every statement carries the
remainder of the string along (`... ++ 41 :: r`), so nothing has to be said about which bytes a rendering avoids. -/
namespace Gldap.Filter
open Ber

/-- a byte of an attribute description, matching rule or type: letter, digit, `-`, `.`, `;` -/
def plainByte (c : UInt8) : Bool :=
  (48 ≤ c.toNat && c.toNat ≤ 57) || (65 ≤ c.toNat && c.toNat ≤ 90) || (97 ≤ c.toNat && c.toNat ≤ 122) ||
  c.toNat == 45 || c.toNat == 46 || c.toNat == 59

def Plain (s : Bytes) : Prop := ∀ c ∈ s, plainByte c = true

/-- the split lemma: a string is cut uniquely at its first byte with property `p` -/
theorem split_unique (p : UInt8 → Bool) (a a' : Bytes) (s s' : UInt8) (r r' : Bytes)
    (ha : ∀ c ∈ a, p c = false) (ha' : ∀ c ∈ a', p c = false) (hs : p s = true) (hs' : p s' = true)
    (h : a ++ s :: r = a' ++ s' :: r') : a = a' ∧ s = s' ∧ r = r' := by
  induction a generalizing a' with
  | nil =>
    cases a' with
    | nil => simpa using h
    | cons x xs => simp at h; simp [← h.1, hs] at ha'  -- `s` would lie in `a'`, where `p` is false
  | cons x xs ih =>
    cases a' with
    | nil => simp at h; simp [h.1, hs'] at ha  -- likewise `s'` in `a`
    | cons y ys =>
      simp at h ha ha'
      simpa [h.1] using ih ys ha.2 ha'.2 h.2

theorem plain_cut {a a' r r' : Bytes} {s s' : UInt8} (ha : Plain a) (ha' : Plain a')
    (hs : plainByte s = false) (hs' : plainByte s' = false) (h : a ++ s :: r = a' ++ s' :: r') :
    a = a' ∧ s = s' ∧ r = r' :=
  split_unique (fun c => !plainByte c) a a' s s' r r' (fun c hc => by simp [ha c hc]) (fun c hc => by simp [ha' c hc])
    (by simp [hs]) (by simp [hs']) h

/-- the bytes that end an escaped value: `(`, `)`, `*` -/
def special (c : UInt8) : Bool := c == 40 || c == 41 || c == 42

theorem escape_special (v : Bytes) : ∀ c ∈ escape v, special c = false := by
  have hex : ∀ n, n < 16 → special (hexDigit n) = false := by decide
  induction v with
  | nil => simp [escape]
  | cons x xs ih =>
    intro c hc
    unfold escape at hc
    split at hc <;> simp only [List.mem_cons] at hc
    · have := x.toNat_lt
      rcases hc with rfl | rfl | rfl | hc
      · rfl
      · exact hex _ (by omega)
      · exact hex _ (by omega)
      · exact ih c hc
    · rename_i hm
      rcases hc with rfl | hc
      · simp only [mustEscape, Bool.or_eq_true, beq_iff_eq, not_or] at hm
        simp [special, hm]
      · exact ih c hc

/-- an escaped value is read off uniquely up to the first of `(`, `)`, `*`. Used also with `v := []` or `w := []`:
    `escape [] ++ s :: r` computes to `s :: r`, so a string that starts with one of the three bytes is read as the
    empty value followed by that byte. -/
theorem escape_cut {v w r r' : Bytes} {s s' : UInt8} (hs : special s = true) (hs' : special s' = true)
    (h : escape v ++ s :: r = escape w ++ s' :: r') : v = w ∧ s = s' ∧ r = r' :=
  have ⟨h1, h2⟩ := split_unique special _ _ s s' r r' (escape_special v) (escape_special w) hs hs' h
  ⟨escape_injective v w h1, h2⟩

/-! ### substrings -/

/-- RFC 4511 SubstringFilter: parts are non-empty, `initial` only first, `final` only last -/
def SubsWF : Bool → List Sub → Prop
  | _, [] => True
  | first, .initial v :: ss => first = true ∧ v ≠ [] ∧ SubsWF false ss
  | _, .any v :: ss => v ≠ [] ∧ SubsWF false ss
  | _, .final v :: ss => v ≠ [] ∧ ss = []

/-- a rendered non-empty list of parts does not begin with `)` -/
theorem renderSubs_ne_close (first : Bool) (x : Sub) (xs : List Sub) (r r' : Bytes) (hw : SubsWF first (x :: xs))
    (h : renderSubs first (x :: xs) ++ 41 :: r = 41 :: r') : False := by
  match x, first, hw with
  | .initial v, true, _ | .any v, false, _ =>  -- `v*` with nothing in front
    simp only [renderSubs, List.append_assoc, List.cons_append, List.nil_append, if_false, Bool.false_eq_true] at h
    exact absurd (escape_cut (w := []) rfl rfl h).2.1 (by decide)
  | .any v, true, _ | .final v, true, _ =>  -- begins with `*`
    simp only [renderSubs, if_true, List.append_assoc, List.cons_append, List.cons.injEq] at h
    exact absurd h.1 (by decide)
  | .final v, false, hw =>  -- `v` alone, and `v` is not empty
    simp only [renderSubs, hw.2, List.append_assoc, List.nil_append, if_false, Bool.false_eq_true] at h
    exact hw.1 (escape_cut (w := []) rfl rfl h).1
  | .initial v, false, hw => nomatch hw.1

theorem renderSubs_prefix (first : Bool) (a b : List Sub) (r r' : Bytes) (ha : SubsWF first a) (hb : SubsWF first b)
    (h : renderSubs first a ++ 41 :: r = renderSubs first b ++ 41 :: r') : a = b ∧ r = r' := by
  induction a generalizing first b with
  | nil =>
    cases b with
    | nil => simpa [renderSubs] using h
    | cons y ys => exact (renderSubs_ne_close first y ys r' r hb h.symm).elim
  | cons x xs ih =>
    cases b with
    | nil => exact (renderSubs_ne_close first x xs r r' ha h).elim
    | cons y ys =>
      cases x <;> cases y <;> simp only [renderSubs, List.append_assoc, List.cons_append] at h
      case initial.initial v w =>
        obtain ⟨rfl, -, h⟩ := escape_cut rfl rfl h
        obtain ⟨rfl, rfl⟩ := ih false ys ha.2.2 hb.2.2 h
        exact ⟨rfl, rfl⟩
      -- an `initial` part begins with its value, an `any` or `final` part in first place with `*`: `v` would be empty
      case initial.any v w | initial.final v w =>
        simp only [ha.1, if_true, List.cons_append, List.nil_append] at h
        exact absurd (escape_cut (w := []) rfl rfl h).1 ha.2.1
      case any.initial v w | final.initial v w =>
        simp only [hb.1, if_true, List.cons_append, List.nil_append] at h
        exact absurd (escape_cut (v := []) rfl rfl h).1.symm hb.2.1
      case any.any v w =>
        obtain ⟨rfl, -, h⟩ := escape_cut rfl rfl (List.append_cancel_left h)
        obtain ⟨rfl, rfl⟩ := ih false ys ha.2 hb.2 h
        exact ⟨rfl, rfl⟩
      -- after its value an `any` part goes on with `*`, a `final` part is the last one and `)` follows
      case any.final v w =>
        rw [hb.2] at h
        exact absurd (escape_cut rfl rfl (List.append_cancel_left h)).2.1 (by decide)
      case final.any v w =>
        rw [ha.2] at h
        exact absurd (escape_cut rfl rfl (List.append_cancel_left h)).2.1 (by decide)
      case final.final v w =>
        rw [ha.2, hb.2] at h ⊢
        obtain ⟨rfl, -, rfl⟩ := escape_cut rfl rfl (List.append_cancel_left h)
        exact ⟨rfl, rfl⟩

theorem renderSubs_injective : ∀ (first : Bool) (a b : List Sub), SubsWF first a → SubsWF first b →
    renderSubs first a = renderSubs first b → a = b :=
  fun first a b ha hb h => (renderSubs_prefix first a b [] [] ha hb (by rw [h])).1

/-- the parts of a substrings filter read neither like an assertion value (`attr=value`) nor like `attr=*` -/
theorem renderSubs_ne (subs : List Sub) (hne : subs ≠ []) (hw : SubsWF true subs) (v r r' : Bytes) :
    renderSubs true subs ++ 41 :: r ≠ escape v ++ 41 :: r' ∧ renderSubs true subs ++ 41 :: r ≠ 42 :: 41 :: r' := by
  match subs, hne, hw with
  | .initial w :: xs, _, hw =>
    simp only [renderSubs, List.append_assoc, List.cons_append, List.nil_append]
    exact ⟨fun h => absurd (escape_cut rfl rfl h).2.1 (by decide), fun h => hw.2.1 (escape_cut (w := []) rfl rfl h).1⟩
  | .any w :: xs, _, hw =>
    simp only [renderSubs, if_true, List.append_assoc, List.cons_append, List.nil_append]
    exact ⟨fun h => absurd (escape_cut (v := []) rfl rfl h).2.1 (by decide),
      fun h => absurd (escape_cut (w := []) rfl rfl (List.cons.inj h).2).2.1 (by decide)⟩
  | .final w :: xs, _, hw =>
    simp only [renderSubs, hw.2, if_true, List.append_assoc, List.cons_append, List.nil_append]
    exact ⟨fun h => absurd (escape_cut (v := []) rfl rfl h).2.1 (by decide),
      fun h => hw.1 (escape_cut (w := []) rfl rfl (List.cons.inj h).2).1⟩

/-! ### extensible match: the segments between the colons -/

/-- `:seg:seg...:=value` -/
def segsRender (segs : List Bytes) (ev : Bytes) : Bytes := segs.flatMap (fun s => 58 :: s) ++ 58 :: 61 :: ev

/-- the same with each colon moved behind its segment, the form in which `plain_cut` reads it -/
theorem segsRender_eq (l : List Bytes) (e : Bytes) : segsRender l e = 58 :: (l.flatMap (· ++ [58]) ++ 61 :: e) := by
  induction l with
  | nil => rfl
  | cons s l ih => simpa [segsRender] using ih

theorem segs_cut : ∀ (a b : List Bytes) (t t' : Bytes), (∀ s ∈ a, Plain s) → (∀ s ∈ b, Plain s) →
    a.flatMap (· ++ [58]) ++ 61 :: t = b.flatMap (· ++ [58]) ++ 61 :: t' → a = b ∧ t = t'
  | [], [], t, t', _, _, h => by simpa using h
  | [], s :: ss, t, t', _, hb, h => by
    simp only [List.flatMap_nil, List.flatMap_cons, List.append_assoc, List.singleton_append] at h
    exact absurd (plain_cut (a := []) (fun _ h => nomatch h) (hb s List.mem_cons_self) rfl rfl h).2.1 (by decide)
  | s :: ss, [], t, t', ha, _, h => by
    simp only [List.flatMap_nil, List.flatMap_cons, List.append_assoc, List.singleton_append] at h
    exact absurd (plain_cut (a' := []) (ha s List.mem_cons_self) (fun _ h => nomatch h) rfl rfl h).2.1 (by decide)
  | s :: ss, u :: us, t, t', ha, hb, h => by
    simp only [List.flatMap_cons, List.append_assoc, List.singleton_append] at h
    obtain ⟨rfl, -, h⟩ := plain_cut (ha s List.mem_cons_self) (hb u List.mem_cons_self) rfl rfl h
    obtain ⟨rfl, rfl⟩ := segs_cut ss us t t' (fun x hx => ha x (List.mem_cons_of_mem _ hx))
      (fun x hx => hb x (List.mem_cons_of_mem _ hx)) h
    exact ⟨rfl, rfl⟩

theorem segs_unique : ∀ (a b : List Bytes) (ev ev' : Bytes), (∀ s ∈ a, Plain s ∧ s ≠ []) → (∀ s ∈ b, Plain s ∧ s ≠ []) →
    segsRender a ev = segsRender b ev' → a = b ∧ ev = ev' := by
  intro a b ev ev' ha hb h
  rw [segsRender_eq, segsRender_eq] at h
  exact segs_cut a b ev ev' (fun s hs => (ha s hs).1) (fun s hs => (hb s hs).1) (List.cons.inj h).2

/-! ### the whole filter: `render` is a prefix code -/

/-- the grammar's side conditions on a filter that is no and / or / not -/
def LeafWF : Filter → Prop
  | .eq a _ => Plain a | .ge a _ => Plain a | .le a _ => Plain a | .approx a _ => Plain a | .present a => Plain a
  | .substr a subs => Plain a ∧ subs ≠ [] ∧ SubsWF true subs
  | .ext rule type _ _ =>
      (∀ r, rule = some r → Plain r ∧ r ≠ [] ∧ r ≠ [100, 110]) ∧ (∀ t, type = some t → Plain t ∧ t ≠ [])
  | _ => True

mutual
/-- a filter within RFC 4511 / 4515's grammar -/
def WF : Filter → Prop
  | .and fs => WFAll fs
  | .or fs => WFAll fs
  | .not f => WF f
  | .eq a v => LeafWF (.eq a v)
  | .substr a s => LeafWF (.substr a s)
  | .ge a v => LeafWF (.ge a v)
  | .le a v => LeafWF (.le a v)
  | .present a => LeafWF (.present a)
  | .approx a v => LeafWF (.approx a v)
  | .ext r t v d => LeafWF (.ext r t v d)
def WFAll : List Filter → Prop
  | [] => True
  | f :: fs => WF f ∧ WFAll fs
end

theorem WF.leaf {f : Filter} (h : WF f) : LeafWF f := by
  cases f with
  | and _ | or _ | not _ => trivial
  | _ => exact h

/-- the segments of an extensible match after the type: `dn` for the flag, the matching rule -/
def extSegs (rule : Option Bytes) (dn : Bool) : List Bytes := (if dn then [[100, 110]] else []) ++ rule.toList

/-- What stands between the parentheses is `front f ++ sep f :: back f`: a plain part (the attribute description or
    type; empty for and / or / not), the first byte that is not plain, the remainder. -/
def front : Filter → Bytes
  | .eq a _ | .substr a _ | .ge a _ | .le a _ | .present a | .approx a _ => a
  | .ext _ type _ _ => type.getD []
  | _ => []
def sep : Filter → UInt8
  | .and _ => 38 | .or _ => 124 | .not _ => 33 | .ge .. => 62 | .le .. => 60 | .approx .. => 126 | .ext .. => 58
  | _ => 61
def back : Filter → Bytes
  | .and fs | .or fs => renderAll fs
  | .not f => render f
  | .eq _ v => escape v
  | .substr _ subs => renderSubs true subs
  | .present _ => [42]
  | .ge _ v | .le _ v | .approx _ v => 61 :: escape v
  | .ext rule _ value dn => (extSegs rule dn).flatMap (· ++ [58]) ++ 61 :: escape value

theorem render_eq {f : Filter} (h : LeafWF f) : render f = paren (front f ++ sep f :: back f) := by
  cases f with
  | ext rule type value dn =>
    have hr : ∀ r, rule = some r → r.isEmpty = false := fun r e => by simpa using (h.1 r e).2.1
    cases rule <;> cases dn <;> simp [render, front, sep, back, extSegs, hr]
  | _ => simp [render, front, sep, back]

theorem front_plain {f : Filter} (h : LeafWF f) : Plain (front f) := by
  cases f with
  | and _ | or _ | not _ => exact fun _ h => nomatch h
  | substr a subs => exact h.1
  | ext rule type value dn =>
    cases type with
    | none => exact fun _ h => nomatch h
    | some t => exact (h.2 t rfl).1
  | _ => exact h

theorem sep_not_plain (f : Filter) : plainByte (sep f) = false := by
  cases f <;> rfl

theorem extSegs_plain {rule : Option Bytes} (dn : Bool) (h : ∀ r, rule = some r → Plain r ∧ r ≠ [] ∧ r ≠ [100, 110]) :
    ∀ s ∈ extSegs rule dn, Plain s := by
  intro s hs
  rcases List.mem_append.mp hs with hs | hs
  · cases dn
    · nomatch hs
    · rw [List.mem_singleton.mp hs]
      show ∀ c ∈ [100, 110], plainByte c = true
      decide
  · exact (h s (Option.mem_toList.mp hs)).1

theorem toList_inj : ∀ {o o' : Option Bytes}, o.toList = o'.toList → o = o'
  | none, none, _ => rfl
  | some _, some _, e => congrArg some (List.cons.inj e).1
  | none, some _, e => nomatch e
  | some _, none, e => nomatch e

theorem extSegs_inj {rule rule' : Option Bytes} {dn dn' : Bool} (h : rule ≠ some [100, 110]) (h' : rule' ≠ some [100, 110])
    (he : extSegs rule dn = extSegs rule' dn') : rule = rule' ∧ dn = dn' := by
  cases dn <;> cases dn' <;>
    simp only [extSegs, if_true, if_false, Bool.false_eq_true, List.nil_append, List.cons_append] at he
  · exact ⟨toList_inj he, rfl⟩
  · exact absurd (Option.mem_toList.mp (he ▸ List.mem_cons_self)) h  -- the rule would be `dn`
  · exact absurd (Option.mem_toList.mp (he ▸ List.mem_cons_self)) h'
  · exact ⟨toList_inj (List.cons.inj he).2, rfl⟩

theorem getD_nil_inj : ∀ {o o' : Option Bytes}, o ≠ some [] → o' ≠ some [] → o.getD [] = o'.getD [] → o = o'
  | none, none, _, _, _ => rfl
  | some _, none, h, _, e => absurd (congrArg some e) h
  | none, some _, _, h, e => absurd (congrArg some e.symm) h
  | some _, some _, _, _, e => congrArg some e

mutual
/-- `render` is a prefix code on well-formed filters: what follows a rendered filter never changes how it is read -/
theorem render_prefix : ∀ (f g : Filter) (r r' : Bytes), WF f → WF g → render f ++ r = render g ++ r' → f = g ∧ r = r'
  | f, g, r, r', wf, wg, h => by
    have lf := wf.leaf
    have lg := wg.leaf
    simp only [render_eq lf, render_eq lg, paren, List.cons_append, List.append_assoc, List.cons.injEq, true_and] at h
    obtain ⟨hf, hs, hb⟩ := plain_cut (front_plain lf) (front_plain lg) (sep_not_plain f) (sep_not_plain g) h
    clear h
    -- different first non-plain bytes, different kinds of filter; `=` is the one that eq, substr and present share
    cases f <;> cases g <;> simp [sep] at hs
    all_goals simp only [front, back, List.nil_append, List.cons_append] at hf hb
    case and.and fs gs => exact (renderAll_prefix fs gs r r' wf wg hb).imp (congrArg _) id
    case or.or fs gs => exact (renderAll_prefix fs gs r r' wf wg hb).imp (congrArg _) id
    case not.not f g => exact (render_prefix f g _ _ wf wg hb).imp (congrArg _) fun e => (List.cons.inj e).2
    case eq.eq a v a' v' =>
      obtain ⟨rfl, -, rfl⟩ := escape_cut rfl rfl hb
      exact ⟨by rw [hf], rfl⟩
    case ge.ge a v a' v' | le.le a v a' v' | approx.approx a v a' v' =>
      obtain ⟨rfl, -, rfl⟩ := escape_cut rfl rfl (List.cons.inj hb).2
      exact ⟨by rw [hf], rfl⟩
    case present.present a a' => exact ⟨by rw [hf], (List.cons.inj (List.cons.inj hb).2).2⟩
    case substr.substr a s a' s' =>
      obtain ⟨rfl, rfl⟩ := renderSubs_prefix true s s' r r' lf.2.2 lg.2.2 hb
      exact ⟨by rw [hf], rfl⟩
    case eq.present a v a' => exact absurd (escape_cut (w := []) rfl rfl hb).2.1 (by decide)
    case present.eq a a' v => exact absurd (escape_cut (v := []) rfl rfl hb).2.1 (by decide)
    case substr.eq a s a' v => exact absurd hb (renderSubs_ne s lf.2.1 lf.2.2 v r r').1
    case eq.substr a v a' s => exact absurd hb.symm (renderSubs_ne s lg.2.1 lg.2.2 v r' r).1
    case substr.present a s a' => exact absurd hb (renderSubs_ne s lf.2.1 lf.2.2 [] r r').2
    case present.substr a a' s => exact absurd hb.symm (renderSubs_ne s lg.2.1 lg.2.2 [] r' r).2
    case ext.ext rule type value dn rule' type' value' dn' =>
      simp only [List.append_assoc, List.cons_append] at hb
      obtain ⟨hseg, hv⟩ := segs_cut _ _ _ _ (extSegs_plain dn lf.1) (extSegs_plain dn' lg.1) hb
      obtain ⟨rfl, rfl⟩ := extSegs_inj (fun e => (lf.1 _ e).2.2 rfl) (fun e => (lg.1 _ e).2.2 rfl) hseg
      obtain ⟨rfl, -, rfl⟩ := escape_cut rfl rfl hv
      rw [getD_nil_inj (fun e => (lf.2 _ e).2 rfl) (fun e => (lg.2 _ e).2 rfl) hf]
      exact ⟨rfl, rfl⟩
theorem renderAll_prefix : ∀ (fs gs : List Filter) (r r' : Bytes), WFAll fs → WFAll gs →
    renderAll fs ++ 41 :: r = renderAll gs ++ 41 :: r' → fs = gs ∧ r = r'
  | [], [], r, r', _, _, h => by simpa [renderAll] using h
  | [], g :: gs, r, r', _, wg, h => by simp [renderAll, render_eq wg.1.leaf, paren] at h  -- `)` against the `(` of `g`
  | f :: fs, [], r, r', wf, _, h => by simp [renderAll, render_eq wf.1.leaf, paren] at h
  | f :: fs, g :: gs, r, r', wf, wg, h => by
    simp only [renderAll, List.append_assoc] at h
    obtain ⟨rfl, h'⟩ := render_prefix f g _ _ wf.1 wg.1 h
    obtain ⟨rfl, rfl⟩ := renderAll_prefix fs gs r r' wf.2 wg.2 h'
    exact ⟨rfl, rfl⟩
end

/-- the string the handler receives determines the client's filter -/
theorem render_injective (f g : Filter) (wf : WF f) (wg : WF g) (h : render f = render g) : f = g :=
  (render_prefix f g [] [] wf wg (by simpa using h)).1

end Gldap.Filter
