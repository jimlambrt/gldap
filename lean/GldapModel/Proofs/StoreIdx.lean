import GldapModel.Proofs.StoreLemmas
/-! Index bookkeeping of `find`: from the zipIdx/filter form to a plain recursion, and what a
    unique hit means for `eraseIdx` / `modify` / lookup. -/
namespace Directory
open Ber Gldap

/-- positions (counted from `k`) of the entries satisfying `p` -/
def idxs {α : Type} (p : α → Bool) : Nat → List α → List Nat
  | _, [] => []
  | k, e :: es => if p e then k :: idxs p (k + 1) es else idxs p (k + 1) es

theorem zipIdx_filter_idxs {α : Type} (p : α → Bool) (k : Nat) (es : List α) :
    ((es.zipIdx k).filter fun (x : α × Nat) => p x.1).map (·.2) = idxs p k es := by
  induction es generalizing k with
  | nil => rfl
  | cons e es ih =>
    simp only [List.zipIdx_cons, List.filter_cons, idxs]
    split
    · simp only [List.map_cons]; rw [ih]
    · exact ih (k + 1)

theorem findIdx_eq_idxs (f : Bytes) (es : List Entry) :
    findIdx f es = idxs (fun e => matchFilter f e.dn) 0 es := by
  unfold findIdx
  exact zipIdx_filter_idxs (fun e => matchFilter f e.dn) 0 es

theorem idxs_congr {α : Type} (p q : α → Bool) (k : Nat) (es : List α) (h : ∀ e ∈ es, p e = q e) :
    idxs p k es = idxs q k es := by
  induction es generalizing k with
  | nil => rfl
  | cons e es ih =>
    simp only [idxs, h e (by simp)]
    rw [ih (k + 1) (fun x hx => h x (by simp [hx]))]

theorem idxs_eq_nil_iff {α : Type} (p : α → Bool) (k : Nat) (es : List α) :
    idxs p k es = [] ↔ ∀ e ∈ es, p e = false := by
  induction es generalizing k with
  | nil => simp [idxs]
  | cons e es ih => cases h : p e <;> simp [idxs, h, ih]

theorem idxs_none {α : Type} (p : α → Bool) (k : Nat) (es : List α) (h : ∀ e ∈ es, p e = false) :
    idxs p k es = [] :=
  (idxs_eq_nil_iff p k es).mpr h

/-- exactly one hit, at position `l.length` -/
theorem idxs_unique {α : Type} (p : α → Bool) (k : Nat) (l r : List α) (x : α)
    (hl : ∀ e ∈ l, p e = false) (hx : p x = true) (hr : ∀ e ∈ r, p e = false) :
    idxs p k (l ++ x :: r) = [l.length + k] := by
  induction l generalizing k with
  | nil => rw [List.nil_append, idxs, if_pos hx, idxs_none p (k + 1) r hr, List.length_nil, Nat.zero_add]
  | cons a l ih =>
    rw [List.cons_append, idxs, hl a List.mem_cons_self, ih (k + 1) fun e he => hl e (List.mem_cons_of_mem a he),
      List.length_cons, Nat.succ_add]
    rfl

theorem idxs_nonempty {α : Type} (p : α → Bool) (k : Nat) (es : List α) (x : α) (hx : x ∈ es) (hp : p x = true) :
    idxs p k es ≠ [] :=
  fun h => Bool.noConfusion (((idxs_eq_nil_iff p k es).mp h x hx).symm.trans hp)

theorem eraseIdx_split {α : Type} (l r : List α) (x : α) : (l ++ x :: r).eraseIdx l.length = l ++ r := by
  rw [List.eraseIdx_append_of_length_le (Nat.le_refl _), Nat.sub_self]; rfl

theorem modify_split {α : Type} (l r : List α) (x : α) (f : α → α) : (l ++ x :: r).modify l.length f = l ++ f x :: r := by
  rw [List.modify_eq_take_drop, List.take_left' rfl, List.drop_left' rfl]; rfl

theorem set_split {α : Type} (l r : List α) (x y : α) : (l ++ x :: r).set l.length y = l ++ y :: r := by
  rw [List.set_append_right _ _ (Nat.le_refl _), Nat.sub_self]; rfl

/-- a list with distinct keys holds key `d` nowhere, or at exactly one position, where erasing is
    filtering the key out and modifying is mapping over the key -/
theorem idxs_key {α : Type} (key : α → Bytes) (es : List α) (hn : (es.map key).Nodup) (d : Bytes) (k : Nat) :
    (es.any (key · == d) = false ∧ idxs (key · == d) k es = []) ∨
    (es.any (key · == d) = true ∧ ∃ i, idxs (key · == d) k es = [i + k] ∧ es.eraseIdx i = es.filter (key · != d) ∧
      ∀ f, es.modify i f = es.map fun e => if key e == d then f e else e) := by
  induction es generalizing k with
  | nil => exact .inl ⟨rfl, rfl⟩
  | cons e es ih =>
    rw [List.map_cons, List.nodup_cons] at hn
    cases h : key e == d with
    | true =>
      -- the head holds the key, so nothing in the tail does
      have ht (x) (hx : x ∈ es) : (key x == d) = false :=
        beq_eq_false_iff_ne.mpr fun hxd => hn.1 (beq_iff_eq.mp h ▸ hxd ▸ List.mem_map_of_mem hx)
      refine .inr ⟨by rw [List.any_cons, h]; rfl, 0, ?_, ?_, fun f => ?_⟩
      · rw [idxs, if_pos h, idxs_none _ _ es ht, Nat.zero_add]
      · rw [List.filter_cons_of_neg (by rw [bne, h]; decide),
          List.filter_eq_self.mpr fun x hx => by rw [bne, ht x hx]; rfl]
        rfl
      · rw [List.map_cons, if_pos h, List.map_congr_left (g := id) fun x hx => by rw [ht x hx]; rfl, List.map_id]
        rfl
    | false =>
      rcases ih hn.2 (k + 1) with ⟨ha, hi⟩ | ⟨ha, i, hi, he, hm⟩
      · exact .inl ⟨by rw [List.any_cons, h, ha]; rfl, by rw [idxs, h, hi]; rfl⟩
      · refine .inr ⟨by rw [List.any_cons, h, ha]; rfl, i + 1, ?_, ?_, fun f => ?_⟩
        · rw [idxs, h, hi, Nat.succ_add]; rfl
        · rw [List.eraseIdx_cons_succ, he, List.filter_cons_of_pos (by rw [bne, h]; rfl)]
        · rw [List.modify_succ_cons, hm, List.map_cons, h]; rfl

/-- ... and looking the key of a member up finds that member alone -/
theorem filter_key {α : Type} (key : α → Bytes) (es : List α) (hn : (es.map key).Nodup) (x : α) (hx : x ∈ es) :
    es.filter (key · == key x) = [x] := by
  induction es with
  | nil => cases hx
  | cons e es ih =>
    rw [List.map_cons, List.nodup_cons] at hn
    rw [List.filter_cons]
    rcases List.mem_cons.mp hx with rfl | hx
    · have ht : ∀ y ∈ es, ¬(key y == key x) = true :=
        fun y hy h => hn.1 (beq_iff_eq.mp h ▸ List.mem_map_of_mem hy)
      rw [if_pos (beq_self_eq_true _), List.filter_eq_nil_iff.mpr ht]
    · rw [if_neg fun (h : (key e == key x) = true) => hn.1 (beq_iff_eq.mp h ▸ List.mem_map_of_mem hx), ih hn.2 hx]

/-- reading the entries at the positions found back is filtering -/
theorem idxs_filterMap {α : Type} (p : α → Bool) (pre es : List α) :
    (idxs p pre.length es).filterMap ((pre ++ es)[·]?) = es.filter p := by
  induction es generalizing pre with
  | nil => rfl
  | cons e es ih =>
    have := ih (pre ++ [e])
    simp only [List.length_append, List.length_singleton, List.append_assoc, List.singleton_append] at this
    cases h : p e <;> simp [idxs, h, this]

theorem findIdx_filterMap (f : Bytes) (es : List Entry) :
    (findIdx f es).filterMap (es[·]?) = es.filter (fun e => matchFilter f e.dn) := by
  rw [findIdx_eq_idxs]
  exact idxs_filterMap _ [] es

end Directory
