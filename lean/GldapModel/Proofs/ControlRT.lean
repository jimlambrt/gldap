import GldapModel.Proofs.Values
/-! Request-direction control round trip: gldap's `decodeControl` applied to the RFC encoding
    of a control returns the control the client meant (all nine typed controls and generic
    OIDs), for every guard setting and every behaviour of the third-party validators. -/
namespace Gldap
open Ber Spec Gldap.Generated

/-- which client controls the theorem covers: ranges from the property's quantifier -/
def _root_.Spec.CCtl.WF : CCtl → Prop
  | .generic oid _ _ _ => oid ∉ typedOids
  | .manageDsaIT _ _ => True
  | .paging size cookie => size < 2^32 ∧ cookie.length < 2^31 - 64
  | .beheraEmpty => True
  | .beheraExpire e => 0 ≤ e ∧ e < 2^63
  | .beheraGrace g => 0 ≤ g ∧ g < 2^63
  | .beheraError e => e ≤ 8
  | .vchuMustChange => True
  | .vchuWarning ds => ∃ e, parseDecimal ds = some e
  | .msNotification => True
  | .msShowDeleted => True
  | .msServerLinkTTL => True

/-- Go's `strconv.ParseInt` is the reference for the expiry digits -/
def decimalOf (ds : Bytes) : Int := (parseDecimal ds).getD 0

/-! ### the header: `decodeControl` on the four shapes RFC 4511 allows -/

@[simp] theorem decodeControl_seq1 (env : Env) (g : Guards) (oid : Bytes) :
    decodeControl env g (Spec.seq [Spec.octet oid]) = ctrlDispatch env g oid false none := rfl

@[simp] theorem decodeControl_seq2v (env : Env) (g : Guards) (oid v : Bytes) :
    decodeControl env g (Spec.seq [Spec.octet oid, Spec.octet v]) =
      ctrlDispatch env g oid false (some (Spec.octet v)) := rfl

@[simp] theorem decodeControl_seq2b (env : Env) (g : Guards) {tt : UInt8} (htt : tt ≠ 0) (oid : Bytes) (b : Bool) :
    decodeControl env g (Spec.seq [Spec.octet oid, Spec.bool tt b]) = ctrlDispatch env g oid b none := by
  simp [decodeControl, ctrlHeader, ctrlTypeOf, valueOf_bool tt htt]

@[simp] theorem decodeControl_seq3 (env : Env) (g : Guards) {tt : UInt8} (htt : tt ≠ 0) (oid v : Bytes) (b : Bool) :
    decodeControl env g (Spec.seq [Spec.octet oid, Spec.bool tt b, Spec.octet v]) =
      ctrlDispatch env g oid b (some (Spec.octet v)) := by
  simp [decodeControl, ctrlHeader, ctrlTypeOf, valueOf_bool tt htt]

/-! ### the dispatch on the OID: the generated OIDs are the RFC ones, compared by evaluation -/

section
variable (env : Env) (g : Guards) (crit : Bool) (v : Option Node)
@[simp] theorem dispatch_dsait : ctrlDispatch env g oidManageDsaIT crit v = .ok (.manageDsaIT crit) := rfl
@[simp] theorem dispatch_paging : ctrlDispatch env g oidPaging crit v = decodePaging env g v := rfl
@[simp] theorem dispatch_behera : ctrlDispatch env g oidBehera crit v = decodeBehera env g v := rfl
@[simp] theorem dispatch_vchuMust : ctrlDispatch env g oidVChuMustChange crit v = .ok .vchuMustChange := rfl
@[simp] theorem dispatch_vchuWarn : ctrlDispatch env g oidVChuWarning crit v = decodeVChuWarning v := rfl
@[simp] theorem dispatch_msNotif : ctrlDispatch env g oidMsNotification crit v = .ok .msNotification := rfl
@[simp] theorem dispatch_msShow : ctrlDispatch env g oidMsShowDeleted crit v = .ok .msShowDeleted := rfl
@[simp] theorem dispatch_msTTL : ctrlDispatch env g oidMsServerLinkTTL crit v = .ok .msServerLinkTTL := rfl
end

theorem typedOids_eq : typedOids = [ControlTypePaging, ControlTypeBeheraPasswordPolicy,
    ControlTypeVChuPasswordMustChange, ControlTypeVChuPasswordWarning, ControlTypeManageDsaIT,
    ControlTypeMicrosoftNotification, ControlTypeMicrosoftShowDeleted, ControlTypeMicrosoftServerLinkTTL] := rfl

theorem dispatch_generic (env g oid crit v) (h : oid ∉ typedOids) :
    ctrlDispatch env g oid crit v = decodeGeneric g oid crit v := by
  simp only [typedOids_eq, List.mem_cons, List.not_mem_nil, or_false, not_or] at h
  simp only [ctrlDispatch, h, if_false]

/-! ### nested values: the value trees are well-formed, so reading their bytes returns them -/

theorem readPacket_ser_nil (ext) (n : Node) (hw : n.WF ext) : readPacket ext (ser n) = some (n, []) := by
  simpa using readPacket_ser ext n [] hw

theorem valueChildren_octet_ser (env : Env) (inner : Node) (hw : inner.WF env.ext) :
    valueChildren env (Spec.octet (ser inner)) = .ok [inner] := by
  simp [valueChildren, readPacket_ser_nil _ _ hw]

theorem primOK_ctx (ext) (c t : Nat) (content : Bytes) (hc : c ≠ 0) : primOK ext c t content = true := by
  simp [primOK, hc]

theorem wf_pagingValue (ext) (size : Nat) (cookie : Bytes) (hs : size < 2^32) (hc : cookie.length < 2^31 - 64) :
    (Spec.seq [Spec.int 2 size, Spec.octet cookie]).WF ext :=
  (Fits.cons (by omega) (by omega)
    (.cons (.prim (by omega) (by omega) rfl (encodeInteger_length_le _ ⟨by omega, by omega⟩) (by decide)) rfl
      (.cons (.prim (by omega) (by omega) rfl (Nat.le_refl _) (by simp [maxPrim]; omega)) rfl .nil))
    (by omega)).1

/-- a Behera value holding one context-tagged primitive, inside the `[0]` warning element or bare (error) -/
theorem wf_beheraValue (ext) (tag : Nat) (content : Bytes) (ht : tag < 31) (hl : content.length ≤ 8) :
    (Spec.seq [.cons 2 0 [.prim 2 tag content]]).WF ext ∧ (Spec.seq [.prim 2 tag content]).WF ext := by
  have hp : Fits ext _ (.prim 2 tag content) :=
    .prim (by omega) ht (primOK_ctx ext 2 tag content (by omega)) hl (by decide)
  exact ⟨(Fits.cons (by omega) (by omega)
      (.cons (.cons (by omega) (by omega) (.cons hp rfl .nil) (by omega)) rfl .nil) (by omega)).1,
    (Fits.cons (by omega) (by omega) (.cons hp rfl .nil) (by omega)).1⟩

theorem decode_paging (env : Env) (g : Guards) (tt : UInt8) (size : Nat) (cookie : Bytes)
    (hs : size < 2^32) (hc : cookie.length < 2^31 - 64) :
    decodeControl env g (encodeCtl tt (.paging size cookie)) = .ok (.paging size cookie) := by
  have hi : Int64 (size : Int) := by constructor <;> omega
  have hw32 : wrap32 (size : Int) = size := by simp [wrap32]; omega
  rw [encodeCtl, decodeControl_seq2v, dispatch_paging]
  simp only [decodePaging, valueChildren_octet_ser env _ (wf_pagingValue _ size cookie hs hc), Outcome.ok_bind]
  simp [valueOf_int (.inl rfl) hi, hw32]

theorem toInt8_small (e : Nat) (h : e ≤ 8) : toInt8 e = e := by simp [toInt8]; omega

theorem decode_behera_warning (env : Env) (g : Guards) (tag : Nat) (v : Int) (ht : tag = 0 ∨ tag = 1)
    (hv : 0 ≤ v ∧ v < 2^63) :
    decodeControl env g (Spec.seq [Spec.octet oidBehera,
        Spec.octet (ser (Spec.seq [.cons 2 0 [.prim 2 tag (encodeInteger v)]]))]) =
      .ok (if tag = 0 then .behera v (-1) (-1) else .behera (-1) v (-1)) := by
  have hi : Int64 v := by constructor <;> omega
  have hvc := valueChildren_octet_ser env _
    (wf_beheraValue env.ext tag _ (by omega) (encodeInteger_length_le v hi)).1
  rcases ht with rfl | rfl <;>
    simp [decodeBehera, hvc, beheraLoop, parseInt64_encodeInteger v hi]

theorem decode_behera_error (env : Env) (g : Guards) (tt : UInt8) (e : Nat) (he : e ≤ 8) :
    decodeControl env g (encodeCtl tt (.beheraError e)) = .ok (.behera (-1) (-1) e) := by
  have hvc := valueChildren_octet_ser env _
    (wf_beheraValue env.ext 1 [e.toUInt8] (by omega) (Nat.le_of_ble_eq_true rfl)).2
  have hb : e.toUInt8.toNat = e := toUInt8_toNat (by omega)
  have : ¬ (e > 8) := by omega
  simp [encodeCtl, decodeBehera, hvc, beheraLoop, hb, this, toInt8_small e he]

/-- every control kind, in the request direction -/
theorem decodeControl_encodeCtl (env : Env) (g : Guards) (tt : UInt8) (htt : tt ≠ 0) (c : CCtl) (hw : c.WF) :
    decodeControl env g (encodeCtl tt c) = .ok (expectedCtl decimalOf c) := by
  cases c with
  | generic oid crit ex v =>
    cases crit <;> cases ex <;> cases v <;>
      simp [encodeCtl, expectedCtl, htt, dispatch_generic _ _ _ _ _ hw, decodeGeneric]
  | manageDsaIT crit ex => cases crit <;> cases ex <;> simp [encodeCtl, expectedCtl, htt]
  | paging size cookie => exact decode_paging env g tt size cookie hw.1 hw.2
  | beheraEmpty => simp [encodeCtl, expectedCtl, decodeBehera]
  | beheraExpire e => simpa [encodeCtl, expectedCtl] using decode_behera_warning env g 0 e (Or.inl rfl) hw
  | beheraGrace e => simpa [encodeCtl, expectedCtl] using decode_behera_warning env g 1 e (Or.inr rfl) hw
  | beheraError e => simpa [expectedCtl] using decode_behera_error env g tt e hw
  | vchuWarning ds =>
    obtain ⟨e, he⟩ := hw
    simp [encodeCtl, decodeVChuWarning, he, expectedCtl, decimalOf]
  | vchuMustChange | msNotification | msShowDeleted | msServerLinkTTL => simp [encodeCtl, expectedCtl]

/-- any number of controls, in any order -/
theorem decodeControls_encode (env : Env) (g : Guards) (tt : UInt8) (htt : tt ≠ 0) (cs : List CCtl) (hw : ∀ c ∈ cs, c.WF) :
    decodeControls env g (cs.map (encodeCtl tt)) = .ok (cs.map (expectedCtl decimalOf)) := by
  induction cs with
  | nil => rfl
  | cons c cs ih =>
    simp [decodeControls, decodeControl_encodeCtl env g tt htt c (hw c (by simp)), ih fun c hc => hw c (by simp [hc])]

end Gldap
