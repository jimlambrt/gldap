import GldapModel.Proofs.ServerGeneric
/-! The invariant of the repaired facts (`goodFacts`): one condition per connection (`ConnOK`), one per Stop call
    (`StopOK`), `connWg` counts the connections not yet gone. C08, C11 and C12 read their statements off it. -/
namespace Server

/-- per-connection bookkeeping for the good teardown order [connClose, onClose, wgDone] -/
def ConnOK (c : Conn) : Prop :=
  match c.gor with
  | .serving | .exited 0 => c.netClosed = 0 ∧ c.onClosed = 0
  | .exited 1 => c.netClosed = 1 ∧ c.onClosed = 0 ∧ c.live = 0
  | .exited 2 | .gone => c.netClosed = 1 ∧ c.onClosed = 1 ∧ c.live = 0
  | .exited _ => False

/-- per Stop call, for the order [closeListener, cancel, waitConns]: past `cancel` the context is cancelled, and
    `waitConns` has returned only when every connection was gone -/
def StopOK (cancelled : Bool) (cs : List Conn) : StopPc → Prop
  | .idle => True
  | .at k => k < 3 ∧ (2 ≤ k → cancelled = true)
  | .returned => cancelled = true ∧ ∀ c ∈ cs, c.gor = .gone

def notGone (c : Conn) : Nat := if c.gor = .gone then 0 else 1

theorem ConnOK.exited_lt {x : Conn} {k : Nat} (h : ConnOK x) (hk : x.gor = .exited k) : k < 3 := by
  rw [ConnOK, hk] at h
  rcases k with _ | _ | _ | k
  · omega
  · omega
  · omega
  · exact h.elim

theorem sum_notGone_eq_zero {cs : List Conn} : (cs.map notGone).sum = 0 ↔ ∀ c ∈ cs, c.gor = .gone := by
  simp [List.sum_eq_zero_iff_forall_eq_nat, notGone]

/-- in a sequence without repetitions the entry determines the position -/
theorem idx_unique {α} {l : List α} (hn : l.Nodup) {k j : Nat} {x : α} (hk : l[k]? = some x) (hj : l[j]? = some x) :
    k = j :=
  (List.getElem?_inj (List.getElem?_eq_some_iff.mp hk).1 hn).mp (hk.trans hj.symm)

theorem good_teardown_nodup : goodFacts.teardownSeq.Nodup := by decide
theorem good_stop_nodup : goodFacts.stopSeq.Nodup := by decide

/-- a step of one connection keeps `ConnOK`; the connection was not gone before, and is gone after iff the step
    was `wgDone` -/
theorem ConnStep.good {c : Nat} {x : Conn} {l : Label} {f : Conn → Conn} {d : Nat} (h : ConnStep goodFacts c x l f d)
    (hx : ConnOK x) : ConnOK (f x) ∧ notGone x = 1 ∧ notGone (f x) + d = 1 := by
  unfold ConnOK at hx
  cases h with
  | exit h | handlerStart h =>
    simp only [h] at hx
    simpa [ConnOK, notGone, h] using hx
  | handlerEnd h =>
    -- a handler is running: by `hx` the connection is `serving` or `exited 0`, where `ConnOK` does not look at `live`
    unfold ConnOK notGone; dsimp only; split at hx <;> simp_all <;> omega
  | wgDone hk hop =>
    obtain rfl := idx_unique good_teardown_nodup hop (j := 2) rfl
    simp only [hk] at hx
    simpa [ConnOK, notGone, tdNext, goodFacts, hk] using hx
  | connClose hk hop hw =>
    obtain rfl := idx_unique good_teardown_nodup hop (j := 0) rfl
    simp only [hk] at hx
    simpa [ConnOK, notGone, tdNext, goodFacts, hk, hx] using hw
  | onClose hk hop =>
    obtain rfl := idx_unique good_teardown_nodup hop (j := 1) rfl
    simp only [hk] at hx
    simpa [ConnOK, notGone, tdNext, goodFacts, hk] using hx

structure GInv (s : Srv) : Prop where
  wg : s.connWg = (s.conns.map notGone).sum
  conns : ∀ c ∈ s.conns, ConnOK c
  stops : ∀ p ∈ s.stops, StopOK s.cancelled s.conns p
  lst : ∀ e, s.run = .returned e → s.lst ≠ .open

theorem ginv_init (n : Nat) : GInv (init n) :=
  ⟨rfl, nofun, fun _ hp => (List.eq_of_mem_replicate hp) ▸ trivial, nofun⟩

/-- a Stop call moves to `q`: what was known of the other calls stays, since `cancelled` is only ever set -/
theorem stops_set {canc canc' : Bool} {cs : List Conn} {stops : List StopPc} {i : Nat} {q : StopPc}
    (h : ∀ p ∈ stops, StopOK canc cs p) (hc : canc = true → canc' = true) (hq : StopOK canc' cs q) :
    ∀ p ∈ stops.set i q, StopOK canc' cs p := by
  intro p hp
  rcases List.mem_or_eq_of_mem_set hp with hp | rfl
  · have := h p hp
    cases p with
    | idle => trivial
    | «at» k => exact ⟨this.1, fun hk => hc (this.2 hk)⟩
    | returned => exact ⟨hc this.1, this.2⟩
  · exact hq

theorem ginv_core {s s' : Srv} {l : Label} (hr : RInv s) (hi : IInv s) (h : GInv s) (hs : CoreStep goodFacts s l s') :
    GInv s' := by
  obtain ⟨hwg, hconns, hstops, hlst⟩ := h
  cases hs with
  | listen ok h0 => exact ⟨hwg, hconns, hstops, by cases ok <;> simp [(hr.notStarted h0).1]⟩
  | loopTopCancelled => exact ⟨hwg, hconns, hstops, fun _ _ => ite_closed_ne nofun fun hp e => hp ⟨rfl, e⟩⟩
  | acceptClosed _ hl => exact ⟨hwg, hconns, hstops, fun _ _ => by simp [hl]⟩
  | loopTop | acceptOk | acceptErr | spawnRefused => exact ⟨hwg, hconns, hstops, nofun⟩
  | spawn _ hc =>
    refine ⟨by simp [hwg, notGone, newConn], ?_, fun p hp => ?_, nofun⟩
    · simp only [List.mem_append, List.mem_singleton]
      rintro c (hc | rfl)
      · exact hconns c hc
      · simp [ConnOK, newConn]
    · -- the context is not cancelled, so no Stop is past `cancel`: none has returned
      have := hstops p hp
      cases p with
      | returned => exact absurd this.1 (hc rfl)
      | _ => exact this
  | stopIdle => exact ⟨hwg, hconns, stops_set hstops id ⟨by decide, by omega⟩, hlst⟩
  | stopClose _ hop =>
    obtain rfl := idx_unique good_stop_nodup hop (j := 0) rfl
    exact ⟨hwg, hconns, stops_set hstops id ⟨by decide, by omega⟩, fun _ _ => ite_closed_ne nofun id⟩
  | stopCancel _ hop =>
    obtain rfl := idx_unique good_stop_nodup hop (j := 1) rfl
    exact ⟨hwg, hconns, stops_set hstops (fun _ => rfl) ⟨by decide, fun _ => rfl⟩, hlst⟩
  | stopWait hat hop hw =>
    obtain rfl := idx_unique good_stop_nodup hop (j := 2) rfl
    -- `connWg = 0` says no connection is left
    exact ⟨hwg, hconns, stops_set hstops id
      ⟨(hstops _ (List.mem_of_getElem? hat)).2 (Nat.le_refl 2), sum_notGone_eq_zero.mp (hwg ▸ hw)⟩, hlst⟩
  | @conn c x _ f d hx hc =>
    obtain ⟨i, hix, e⟩ := modConn_eq_set f hi.nodup hx
    have hxm := List.mem_of_getElem? hix
    obtain ⟨ok', g, g'⟩ := hc.good (hconns x hxm)
    refine ⟨?_, fun y hy => ?_, fun p hp => ?_, hlst⟩
    · have := sum_set notGone s.conns i x (f x) hix
      simp only [e]; omega
    · rcases List.mem_or_eq_of_mem_set (e ▸ hy) with hy | rfl
      · exact hconns y hy
      · exact ok'
    · -- a Stop that has returned saw every connection gone, and this one is not
      have := hstops p hp
      cases p with
      | returned => simp [notGone, this.2 x hxm] at g
      | _ => exact this

structure Inv (s : Srv) : Prop where
  r : RInv s
  i : IInv s
  g : GInv s

/-- with the repaired facts every panic is recovered: each step is a core step -/
theorem step_good {s s' : Srv} {l : Label} (h : step goodFacts s l = some s') : CoreStep goodFacts s l.core s' :=
  (step_cases h).resolve_right fun h => h.1 ⟨rfl, rfl⟩

theorem inv_step {s s' : Srv} {l : Label} (h : Inv s) (hs : step goodFacts s l = some s') : Inv s' :=
  have hc := step_good hs
  ⟨rinv_core rfl h.r hc, iinv_core h.i hc, ginv_core h.r h.i h.g hc⟩

theorem inv_of_run {n : Nat} {ls : List Label} {s : Srv} (hr : run goodFacts (init n) ls = some s) : Inv s :=
  (isRun _).invariant inv_step hr ⟨rinv_init n, iinv_init n, ginv_init n⟩

end Server
