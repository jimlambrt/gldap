import GldapModel.Runtime.ConnLoop
import GldapModel.Runtime.Run
/-! Invariants of the per-connection automaton. `step` is opened in one place, `step_inv`: what an accepted
    event needs and does, to the phase (along the control skeleton `Goes`) and to the other fields. Every
    other fact rests on its fields (the enabledness lemmas of C06 apart, which evaluate `step` on a given phase),
    and runs are handled through `Run.IsRun`. -/
namespace ConnLoop

def Phase.isLoop : Phase → Bool
  | .fresh | .atHead | .reading _ | .gotRequest _ | .inHandler _ => true
  | _ => false

def Ev.isLoopEv : Ev → Bool
  | .head _ | .shutdown _ | .read _ | .readerr _ | .unbind _ | .inline _ | .inlinedone _ | .spawn _ | .start => true
  | _ => false

/-- events that read or dispatch a request -/
def Ev.servesRequest : Ev → Bool
  | .head _ | .read _ | .unbind _ | .inline _ | .spawn _ => true
  | _ => false

def headNo : Ev → Option Nat | .head r => some r | _ => none

def countEv (e : Ev) (l : List Ev) : Nat := (l.filter (· == e)).length

/-- The control skeleton: `Goes p e q` if accepting `e` takes the connection goroutine from phase `p`
    to `q`. `init` and the events of the request goroutines leave it where it is. -/
inductive Goes : Phase → Ev → Phase → Prop
  | start : Goes .fresh .start .atHead
  | head r : Goes .atHead (.head r) (.reading r)
  | shutdown r : Goes (.reading r) (.shutdown r) .exited
  | readerr r : Goes (.reading r) (.readerr r) .exited
  | read r : Goes (.reading r) (.read r) (.gotRequest r)
  | unbind r : Goes (.gotRequest r) (.unbind r) .exited
  | inline r : Goes (.gotRequest r) (.inline r) (.inHandler r)
  | spawn r : Goes (.gotRequest r) (.spawn r) .atHead
  | inlinedone r : Goes (.inHandler r) (.inlinedone r) .atHead
  | recovered p : p ≠ .fresh → (∀ k, p ≠ .tearing k) → p ≠ .gone → Goes p .recovered .exited
  | teardown : Goes .exited .teardown (.tearing 0)
  | wgdone k : Goes (.tearing k) .wgdone (.tearing (k + 1))
  | closed k : Goes (.tearing k) .closed (.tearing (k + 1))
  | oncloseend k : Goes (.tearing k) .oncloseend (.tearing (k + 1))
  | netclose k : Goes (.tearing k) .netclose (.tearing k)
  | onclose k : Goes (.tearing k) .onclose (.tearing k)
  | gone k : Goes (.tearing k) .gone .gone
  | init p : Goes p .init p
  | reqStart p r : Goes p (.reqStart r) p
  | reqDone p r : Goes p (.reqDone r) p
  | reqRecovered p r : Goes p (.reqRecovered r) p

/-- what an accepted event needs and does: to the phase (`goes`) and to the other fields -/
structure Step (F : Facts) (s : St) (e : Ev) (s' : St) : Prop where
  goes : Goes s.phase e s'.phase
  head : ∀ r, e = .head r → r = s.reqs + 1
  netclose : e = .netclose → F.closeWaitsHandlers = true → pendingHandlers s = []
  log : s'.log = s.log ++ [e]
  reqs : s'.reqs = (headNo e).getD s.reqs
  netClosed : s'.netClosed = s.netClosed + (if e = .netclose then 1 else 0)
  onClosed : s'.onClosed = s.onClosed + (if e = .oncloseend then 1 else 0)
  writerGen : s'.writerGen = s.writerGen + (if e = .init then 1 else 0)
  writers : s'.writers = (headNo e).elim s.writers fun r => s.writers ++ [(r, writerGenFor F s)]

theorem step_inv {F : Facts} {s s' : St} {e : Ev} (h : step F s e = some s') : Step F s e s' := by
  revert s'
  -- One goal per branch of `step`; `⟨⟩` disposes of the refusing ones.
  fun_cases step F s e <;> rintro _ ⟨⟩ <;> exact {
    -- An accepting branch knows the phase before from its pattern (`s.phase = .atHead`) and, where it compares
    -- numbers, from its guard (`r = r'`); once `simp` has written these in and reduced the phase after, a
    -- constructor of `Goes` fits (`recovered` takes its three premises from the branch conditions).
    goes := by simp +zetaDelta only [*] <;> constructor <;> assumption
    -- the premise singles out the accepting `head` (`netclose`) branch, whose guard has the conclusion
    head := by rintro _ ⟨⟩ <;> simp [*]
    netclose := by rintro ⟨⟩ <;> exact (‹_ ∧ _ ∧ _›).2.1
    -- the state after is written out in the branch, and `headNo e`, `e = .init` compute
    log := rfl, reqs := rfl, netClosed := rfl, onClosed := rfl, writerGen := rfl, writers := rfl }

/-- bookkeeping: the counters are the numbers of `netclose` / `oncloseend` events -/
theorem step_counts (F : Facts) (s s' : St) (e : Ev) (h : step F s e = some s') :
    s'.netClosed = s.netClosed + (if e = .netclose then 1 else 0) ∧
    s'.onClosed = s.onClosed + (if e = .oncloseend then 1 else 0) :=
  ⟨(step_inv h).netClosed, (step_inv h).onClosed⟩

/-- the close waits for every handler that was handed a goroutine -/
theorem netclose_after_handlers (F : Facts) (hF : F.closeWaitsHandlers = true) (s s' : St)
    (h : step F s .netclose = some s') : ∀ r ∈ s.spawned, r ∈ s.finished := fun r hr => by
  simpa using List.filter_eq_nil_iff.mp ((step_inv h).netclose rfl hF) r hr

theorem isRun (F : Facts) : Run.IsRun (step F) (run F) := ⟨fun _ => rfl, fun _ _ _ => rfl⟩

theorem run_log {F : Facts} {es : List Ev} {s s' : St} (h : run F s es = some s') : s'.log = s.log ++ es :=
  (isRun F).induction (P := fun s es s' => s'.log = s.log ++ es) (by simp)
    (fun hs ih => by rw [ih, (step_inv hs).log]; simp) h

/-- `Q` is a set of phases that accepted events leave only by an event in `X`, and in which no
    event that serves a request is accepted: then a run from `Q` that avoids `X` serves none.
    (After the loop: `X` empty. From an inline handler on: `X` its `inlinedone`.) -/
theorem quiet_run {F : Facts} {Q : Phase → Prop} {X : Ev → Prop}
    (hQ : ∀ {p e q}, Q p → Goes p e q → ¬X e → Q q ∧ e.servesRequest = false)
    {es : List Ev} {s s' : St} (h : run F s es = some s') (hs : Q s.phase) (hX : ∀ e ∈ es, ¬X e) :
    ∀ e ∈ es, e.servesRequest = false :=
  (isRun F).induction (P := fun s es _ => Q s.phase → (∀ e ∈ es, ¬X e) → ∀ e ∈ es, e.servesRequest = false)
    (fun _ _ _ => by simp)
    (fun hs ih hq hX => by
      have ⟨hq', hquiet⟩ := hQ hq (step_inv hs).goes (hX _ (by simp))
      simpa [hquiet] using ih hq' fun e he => hX e (by simp [he]))
    h hs hX

/-- once the loop is over no request is read or dispatched any more -/
theorem after_loop {p q : Phase} {e : Ev} (hp : p.isLoop = false) (h : Goes p e q) :
    q.isLoop = false ∧ e.servesRequest = false := by
  cases h <;> simp_all [Phase.isLoop, Ev.servesRequest]

/-- from the moment an inline handler runs until its `inlinedone`, nothing is read or dispatched: the
    handler returns by that event alone, and a recovered panic ends the loop -/
theorem in_handler {p q : Phase} {e : Ev} {r : Nat} (hp : p = .inHandler r ∨ p.isLoop = false) (h : Goes p e q)
    (he : e ≠ .inlinedone r) : (q = .inHandler r ∨ q.isLoop = false) ∧ e.servesRequest = false := by
  rcases hp with rfl | hp
  · cases h <;> simp_all [Ev.servesRequest, Phase.isLoop]
  · exact ⟨.inr (after_loop hp h).1, (after_loop hp h).2⟩

theorem unbind_exits {p q : Phase} {r : Nat} (h : Goes p (.unbind r) q) : q = .exited := by cases h; rfl

theorem inline_enters {p q : Phase} {r : Nat} (h : Goes p (.inline r) q) : q = .inHandler r := by cases h; rfl

/-- the `head` events seen so far are 1, 2, ..., `reqs`, and the request being read, dispatched or
    handled inline carries the current number -/
structure Numbered (s : St) : Prop where
  heads : s.log.filterMap headNo = List.range' 1 s.reqs
  cur : ∀ r, (s.phase = .reading r ∨ s.phase = .gotRequest r ∨ s.phase = .inHandler r) → r = s.reqs

theorem headNo_eq_some {e : Ev} {r : Nat} (h : headNo e = some r) : e = .head r := by
  cases e <;> cases h <;> rfl

/-- a phase that holds request `r` is entered by `head r`, or inherited from such a phase by an event that is no `head` -/
theorem goes_cur {p q : Phase} {e : Ev} {r : Nat} (h : Goes p e q)
    (hq : q = .reading r ∨ q = .gotRequest r ∨ q = .inHandler r) :
    e = .head r ∨ headNo e = none ∧ (p = .reading r ∨ p = .gotRequest r ∨ p = .inHandler r) := by
  cases h <;> simp_all [headNo]

theorem numbered_step {F : Facts} {s s' : St} {e : Ev} (hi : Numbered s) (h : step F s e = some s') :
    Numbered s' := by
  have st := step_inv h
  refine ⟨?_, fun r hr => ?_⟩
  · rw [st.log, st.reqs, List.filterMap_append, hi.heads]
    cases he : headNo e with
    | none => simp [he]
    | some r => cases st.head r (headNo_eq_some he); simp [he, List.range'_1_concat, Nat.add_comm]
  · rw [st.reqs]
    rcases goes_cur (step_inv h).goes hr with rfl | ⟨he, hp⟩
    · rfl
    · rw [he]; exact hi.cur r hp

theorem numbered_run {F : Facts} {es : List Ev} {s : St} (h : run F init es = some s) : Numbered s :=
  (isRun F).invariant numbered_step h ⟨rfl, by simp [init]⟩

end ConnLoop
