import GldapModel.Runtime.Server
import GldapModel.Runtime.Run
/-! The server's step function as a relation: one constructor per enabled transition, so that a proof about
    steps names the transition it is at instead of unfolding `stepCore`; and what `findConn` / `modConn` do on a
    list of connections with distinct ids. -/
namespace Server

theorem stopping_false_iff (s : Srv) : stopping s = false ↔ ∀ p ∈ s.stops, ∀ k, p ≠ .at k := by
  rw [stopping, List.any_eq_false]
  refine forall₂_congr fun p _ => ?_
  cases p <;> simp

theorem isRun (F : Facts) : Run.IsRun (step F) (run F) := ⟨fun _ => rfl, fun _ _ _ => rfl⟩

def tdNext (F : Facts) (k : Nat) : Gor := if k + 1 = F.teardownSeq.length then .gone else .exited (k+1)
def stopNext (F : Facts) (k : Nat) : StopPc := if k + 1 = F.stopSeq.length then .returned else .at (k+1)

/-- `ConnStep F c x l f d`: on connection `c`, in state `x`, `l` is enabled, turns it into `f x` and takes `d` off `connWg` -/
inductive ConnStep (F : Facts) (c : Nat) (x : Conn) : Label → (Conn → Conn) → Nat → Prop
  | exit (h : x.gor = .serving) : ConnStep F c x (.connExit c) (fun x => { x with gor := .exited 0 }) 0
  | handlerStart (h : x.gor = .serving) : ConnStep F c x (.handlerStart c) (fun x => { x with live := x.live + 1 }) 0
  | handlerEnd (h : x.live > 0) : ConnStep F c x (.handlerEnd c) (fun x => { x with live := x.live - 1 }) 0
  | wgDone {k} (hk : x.gor = .exited k) (hop : F.teardownSeq[k]? = some .wgDone) :
      ConnStep F c x (.teardown c) (fun x => { x with gor := tdNext F k }) 1
  | connClose {k} (hk : x.gor = .exited k) (hop : F.teardownSeq[k]? = some .connClose)
      (hw : ¬(F.connCloseWaitsHandlers ∧ x.live > 0)) :
      ConnStep F c x (.teardown c) (fun x => { x with gor := tdNext F k, netClosed := x.netClosed + 1 }) 0
  | onClose {k} (hk : x.gor = .exited k) (hop : F.teardownSeq[k]? = some .onClose) :
      ConnStep F c x (.teardown c) (fun x => { x with gor := tdNext F k, onClosed := x.onClosed + 1 }) 0

def newConn (id : Nat) : Conn := { id := id, gor := .serving, live := 0, netClosed := 0, onClosed := 0 }

inductive CoreStep (F : Facts) (s : Srv) : Label → Srv → Prop
  | listen (ok : Bool) (hr : s.run = .notStarted) (hs : stopping s = false) :
      CoreStep F s (.runListen ok) { s with lst := if ok then .open else s.lst, ready := ok || !F.readyOnlyOnSuccess,
                                            run := if ok then .loopTop else .returned true }
  | loopTopCancelled (hr : s.run = .loopTop) (hc : s.cancelled = true) :
      CoreStep F s .runLoopTop { s with nextConn := s.nextConn + 1, run := .returned false,
                                        lst := if F.ctxBranchClosesListener ∧ s.lst = .open then .closed else s.lst }
  | loopTop (hr : s.run = .loopTop) (hc : ¬s.cancelled = true) :
      CoreStep F s .runLoopTop { s with nextConn := s.nextConn + 1, run := .accepting }
  | acceptOk (hr : s.run = .accepting) (hl : s.lst = .open) : CoreStep F s .runAcceptOk { s with run := .accepted }
  | acceptClosed (hr : s.run = .accepting) (hl : s.lst = .closed) :
      CoreStep F s .runAcceptClosed { s with run := .returned false }
  | acceptErr (hr : s.run = .accepting) :
      CoreStep F s .runAcceptErr { s with run := if F.acceptErrContinues then .loopTop else .returned true }
  | spawnRefused (hr : s.run = .accepted) (hg : F.addGuarded = true) (hc : s.cancelled = true) :
      CoreStep F s .runSpawn { s with run := .loopTop }
  | spawn (hr : s.run = .accepted) (hc : F.addGuarded = true → ¬s.cancelled = true) :
      CoreStep F s .runSpawn { s with run := .loopTop, connWg := s.connWg + 1, conns := s.conns ++ [newConn s.nextConn] }
  | stopIdle {i} (hi : s.stops[i]? = some .idle) :
      CoreStep F s (.stopStep i) { s with stops := s.stops.set i (if F.stopSeq.length = 0 then .returned else .at 0) }
  | stopClose {i k} (hi : s.stops[i]? = some (.at k)) (hop : F.stopSeq[k]? = some .closeListener) :
      CoreStep F s (.stopStep i) { s with lst := if s.lst = .open then .closed else s.lst, stops := s.stops.set i (stopNext F k) }
  | stopCancel {i k} (hi : s.stops[i]? = some (.at k)) (hop : F.stopSeq[k]? = some .cancel) :
      CoreStep F s (.stopStep i) { s with cancelled := true, stops := s.stops.set i (stopNext F k) }
  | stopWait {i k} (hi : s.stops[i]? = some (.at k)) (hop : F.stopSeq[k]? = some .waitConns) (hw : s.connWg = 0) :
      CoreStep F s (.stopStep i) { s with stops := s.stops.set i (stopNext F k) }
  | conn {c x l f d} (hx : findConn s.conns c = some x) (h : ConnStep F c x l f d) :
      CoreStep F s l { s with connWg := s.connWg - d, conns := modConn s.conns c f }

theorem CoreStep.of_stepCore {F : Facts} {s s' : Srv} {l : Label} (h : stepCore F s l = some s') : CoreStep F s l s' := by
  revert h
  -- the branches of `stepCore` in the order of its text; `cases h` disposes of those that return `none`,
  -- and each one left is the constructor named, its guards found in the context
  fun_cases stepCore F s l <;> intro h <;> cases h
  -- Run
  · exact .listen _ ‹_ ∧ _›.1 ‹_ ∧ _›.2
  · exact .loopTopCancelled ‹_› ‹_›
  · exact .loopTop ‹_› ‹_›
  · exact .acceptOk ‹_ ∧ _›.1 ‹_ ∧ _›.2
  · exact .acceptClosed ‹_ ∧ _›.1 ‹_ ∧ _›.2
  · exact .acceptErr ‹_›
  · exact .spawnRefused ‹_› ‹_› ‹_›
  · exact .spawn ‹_› fun _ => ‹_›
  · exact .spawn ‹_› fun h => absurd h ‹_›
  -- a Stop call
  · exact .stopIdle ‹_›
  · exact .stopClose ‹_› ‹_›
  · exact .stopCancel ‹_› ‹_›
  · exact .stopWait ‹_› ‹_› ‹_›
  -- a connection
  · exact .conn ‹_› (.exit ‹_›)
  · exact .conn ‹_› (.handlerStart ‹_›)
  · exact .conn ‹_› (.handlerEnd ‹_›)
  · exact .conn ‹_› (.wgDone ‹_› ‹_›)
  · exact .conn ‹_› (.connClose ‹_› ‹_› ‹_›)
  · exact .conn ‹_› (.onClose ‹_› ‹_›)

def Label.core : Label → Label
  | .connExitShutdown c | .connPanic c => .connExit c
  | .handlerPanic c => .handlerEnd c
  | l => l

/-- a panic label: where the goroutine recovers (`p`) it is the core step `l'`; a panic nobody recovers is enabled
    when `g` holds of the connection and only clears `alive` -/
theorem panic_cases {F : Facts} {s s' : Srv} {c : Nat} {p : Prop} [Decidable p] {l' : Label} {g : Conn → Prop}
    [DecidablePred g]
    (h : (if p then stepCore F s l' else
          match findConn s.conns c with
          | some x => if g x then some { s with alive := false } else none
          | none => none) = some s') :
    CoreStep F s l' s' ∨ ¬p ∧ s' = { s with alive := false } := by
  split at h
  · exact .inl (.of_stepCore h)
  · refine .inr ⟨‹_›, ?_⟩
    split at h
    · split at h <;> cases h; rfl
    · cases h

/-- a step is the core step of `l.core`, or a panic nobody recovers, which only clears `alive` -/
theorem step_cases {F : Facts} {s s' : Srv} {l : Label} (h : step F s l = some s') :
    CoreStep F s l.core s' ∨ (¬(F.recoverOnConn = true ∧ F.recoverOnRequest = true) ∧ s' = { s with alive := false }) := by
  cases l with
  | connExitShutdown c =>
    rw [step] at h; split at h
    · exact .inl (.of_stepCore h)
    · cases h
  -- `step` on the two panic labels unfolds to the `if` of `panic_cases`
  | connPanic c => exact (panic_cases h).imp_right fun h => ⟨fun hh => h.1 hh.1, h.2⟩
  | handlerPanic c => exact (panic_cases h).imp_right fun h => ⟨fun hh => h.1 hh.2, h.2⟩
  | _ => exact .inl (.of_stepCore h)

/-- a property that every core step keeps and that does not look at `alive` holds along every run -/
theorem run_invariant_core {F : Facts} {P : Srv → Prop} (hcore : ∀ {s l s'}, P s → CoreStep F s l s' → P s')
    (hdie : ∀ {s}, P s → P { s with alive := false }) {ls : List Label} {s s' : Srv} (h : P s)
    (hr : run F s ls = some s') : P s' :=
  (isRun F).invariant (fun hP hs => (step_cases hs).elim (hcore hP) (fun e => e.2 ▸ hdie hP)) hr h

theorem ConnStep.id {F : Facts} {c : Nat} {x : Conn} {l : Label} {f : Conn → Conn} {d : Nat} (h : ConnStep F c x l f d)
    (y : Conn) : (f y).id = y.id := by
  cases h <;> rfl

theorem findConn_some {cs : List Conn} {c : Nat} {x : Conn} (h : findConn cs c = some x) : x ∈ cs ∧ x.id = c :=
  ⟨List.mem_of_find?_eq_some h, by simpa using List.find?_some h⟩

theorem findConn_of_mem {cs : List Conn} (hn : (cs.map (·.id)).Nodup) {c : Conn} (hc : c ∈ cs) :
    findConn cs c.id = some c := by
  induction cs with
  | nil => cases hc
  | cons x xs ih =>
    rw [List.map_cons, List.nodup_cons] at hn
    rw [findConn, List.find?_cons]
    rcases List.mem_cons.mp hc with rfl | hc'
    · simp
    · have : x.id ≠ c.id := fun e => hn.1 (e ▸ List.mem_map_of_mem hc')
      simpa [this, findConn] using ih hn.2 hc'

theorem modConn_ids (cs : List Conn) (c : Nat) {f : Conn → Conn} (hf : ∀ x, (f x).id = x.id) :
    (modConn cs c f).map (·.id) = cs.map (·.id) := by
  simp only [modConn, List.map_map]
  exact List.map_congr_left fun x _ => by simp only [Function.comp]; split <;> simp [hf]

/-- replacing one entry of a list: the sum of a measure over it changes by that entry's share -/
theorem sum_set {α} (m : α → Nat) (l : List α) (i : Nat) (p v : α) (h : l[i]? = some p) :
    ((l.set i v).map m).sum + m p = (l.map m).sum + m v := by
  induction l generalizing i with
  | nil => simp at h
  | cons a as ih =>
    cases i with
    | zero =>
      obtain rfl : a = p := Option.some.inj h
      simp only [List.set_cons_zero, List.map_cons, List.sum_cons]; omega
    | succ j =>
      have := ih j h
      simp only [List.set_cons_succ, List.map_cons, List.sum_cons]; omega

/-- with distinct ids `modConn` is `List.set` at the position of the one connection that `findConn` finds -/
theorem modConn_eq_set {cs : List Conn} {c : Nat} {x : Conn} (f : Conn → Conn) (hn : (cs.map (·.id)).Nodup)
    (hx : findConn cs c = some x) : ∃ i, cs[i]? = some x ∧ modConn cs c f = cs.set i (f x) := by
  induction cs with
  | nil => cases hx
  | cons y ys ih =>
    rw [List.map_cons, List.nodup_cons] at hn
    by_cases hy : y.id = c
    · obtain rfl : y = x := by simpa [findConn, hy] using hx
      have : modConn ys c f = ys := by
        rw [modConn]; conv => rhs; rw [← List.map_id ys]
        refine List.map_congr_left fun z hz => if_neg fun e => hn.1 ?_
        rw [hy, ← e]; exact List.mem_map_of_mem hz
      refine ⟨0, rfl, ?_⟩
      rw [modConn, List.map_cons, if_pos hy]; exact congrArg _ this
    · obtain ⟨i, e1, e2⟩ := ih hn.2 (by simpa [findConn, hy] using hx)
      refine ⟨i + 1, e1, ?_⟩
      rw [modConn, List.map_cons, if_neg hy]; exact congrArg _ e2

end Server
