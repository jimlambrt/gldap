import GldapModel.Gldap.Packet
/-! With every decode-path guard in place no clause of the decode model can produce `panic`, for
    any tree. `panic` enters the model only through `fail g.site`; a function that is a plain
    tree of `if`/`match` is settled by the case analysis its own definition gives (`fun_cases`),
    one that sequences others by `np_bind`, `np_ite` and a `split` for each `match`. -/
namespace Gldap
open Ber

theorem Guards.decodeAll_iff (g : Guards) : g.decodeAll = true ↔
    g.bindVersionMsg = true ∧ g.ctrlType = true ∧ g.ctrlCrit = true ∧ g.pagingShape = true ∧
    g.pagingSize = true ∧ g.beheraWarn = true ∧ g.ctrlValue = true := by
  simp [Guards.decodeAll, and_assoc]

/-! ### readers without a guarded site -/

theorem np_valueChildren (env : Env) (v : Node) : NoPanic (valueChildren env v) := by
  fun_cases valueChildren env v <;> simp

theorem np_decodeVChuWarning (v) : NoPanic (decodeVChuWarning v) := by
  fun_cases decodeVChuWarning v <;> simp

theorem np_requestMessageID (p : Node) : NoPanic (requestMessageID p) := by
  fun_cases requestMessageID p <;> simp

theorem np_intChild (r i t) : NoPanic (intChild r i t) := by
  fun_cases intChild r i t <;> simp
theorem np_boolChild (r i) : NoPanic (boolChild r i) := by
  fun_cases boolChild r i <;> simp
theorem np_octetChild (r i) : NoPanic (octetChild r i) := by
  fun_cases octetChild r i <;> simp
theorem np_octetList (l) : NoPanic (octetList l) := by
  fun_induction octetList l
  · exact np_ok _
  · exact np_err
  · exact np_bind ‹_› fun _ => np_ok _

theorem np_decodeChange (c : Node) : NoPanic (decodeChange c) := by
  refine np_ite np_err <| np_bind (np_intChild _ _ _) fun _ => np_ite np_err ?_
  split
  · exact np_err
  · exact np_bind (np_octetChild _ _) fun _ => np_ite np_err (np_ok _)

theorem np_decodeChanges (l) : NoPanic (decodeChanges l) := by
  fun_induction decodeChanges l
  · exact np_ok _
  · exact np_bind (np_decodeChange _) fun _ => np_bind ‹_› fun _ => np_ok _

theorem np_decodeAttribute (a : Node) : NoPanic (decodeAttribute a) := by
  refine np_ite np_err <| np_bind (np_octetChild _ _) fun _ => np_ite np_err ?_
  split
  · exact np_err
  · exact np_bind (np_octetList _) fun _ => np_ok _

theorem np_decodeAttributes (l) : NoPanic (decodeAttributes l) := by
  fun_induction decodeAttributes l
  · exact np_ok _
  · exact np_bind (np_decodeAttribute _) fun _ => np_bind ‹_› fun _ => np_ok _

/-! ### controls: six sites -/

section
variable {env : Env} {g : Guards}

theorem np_beheraLoop (hw : g.beheraWarn = true) (l : List Node) (acc) : NoPanic (beheraLoop g l acc) := by
  fun_induction beheraLoop g l acc <;> simp [*]

theorem np_ctrlTypeOf (h : g.ctrlType = true) (k : Node) : NoPanic (ctrlTypeOf g k) := by
  fun_cases ctrlTypeOf g k <;> simp [h]

theorem np_ctrlHeader (hType : g.ctrlType = true) (hCrit : g.ctrlCrit = true) (n : Node) : NoPanic (ctrlHeader g n) := by
  fun_cases ctrlHeader g n
  · exact np_err
  · exact np_bind (np_ctrlTypeOf hType _) fun _ => np_ok _
  · exact np_bind (np_ctrlTypeOf hType _) fun _ => by split <;> exact np_ok _
  · exact np_bind (np_ctrlTypeOf hType _) fun _ => by split <;> simp [hCrit]
  · exact np_err

theorem np_decodePaging (hShape : g.pagingShape = true) (hSize : g.pagingSize = true) (v) :
    NoPanic (decodePaging env g v) := by
  fun_cases decodePaging env g v
  · exact np_ok _
  · refine np_bind (np_valueChildren _ _) fun kids => ?_
    split
    · exact np_err
    · split
      · split <;> simp [hSize]
      · simp [hShape]

theorem np_decodeBehera (hWarn : g.beheraWarn = true) (v) : NoPanic (decodeBehera env g v) := by
  fun_cases decodeBehera env g v
  · exact np_ok _
  · refine np_bind (np_valueChildren _ _) fun kids => ?_
    split
    · exact np_err
    · exact np_bind (np_beheraLoop hWarn _ _) fun _ => np_ok _

theorem np_decodeGeneric (hValue : g.ctrlValue = true) (ty crit v) : NoPanic (decodeGeneric g ty crit v) := by
  fun_cases decodeGeneric g ty crit v <;> simp [hValue]

end

theorem decodeControl_total (env : Env) (g : Guards) (hg : g.decodeAll = true) (n : Node) :
    NoPanic (decodeControl env g n) := by
  obtain ⟨_, hType, hCrit, hShape, hSize, hWarn, hValue⟩ := g.decodeAll_iff.1 hg
  have hd ty crit value : NoPanic (ctrlDispatch env g ty crit value) := by
    fun_cases ctrlDispatch env g ty crit value <;>
      simp [np_decodePaging hShape hSize, np_decodeBehera hWarn, np_decodeVChuWarning, np_decodeGeneric hValue]
  exact np_bind (np_ctrlHeader hType hCrit n) fun _ => hd _ _ _

/-! ### the request packet: one site -/

section
variable {g : Guards} (h1 : g.bindVersionMsg = true)
include h1

theorem np_requestPacket (p : Node) : NoPanic (requestPacket g p) := by
  fun_cases requestPacket g p <;> simp [h1]

theorem np_requestType (p : Node) : NoPanic (requestType g p) :=
  np_bind (np_requestPacket h1 p) fun _ =>
    np_ite (np_ok _) <| np_ite (np_ok _) <| np_ite (np_ok _) <| np_ite (np_ok _) <| np_ite (np_ok _) <|
    np_ite (np_ok _) <| np_ite (np_ok _) np_err

theorem np_extendedOperationName (p : Node) : NoPanic (extendedOperationName g p) := by
  refine np_bind (np_requestPacket h1 p) fun r => np_ite np_err (np_ite np_err ?_)
  split <;> simp

end

/-! ### the operations: request packet, fields, controls -/

section
variable {env : Env} {g : Guards} (hg : g.decodeAll = true)
include hg

theorem np_decodeControls (l : List Node) : NoPanic (decodeControls env g l) := by
  fun_induction decodeControls env g l
  · exact np_ok _
  · exact np_bind (decodeControl_total env g hg _) fun _ => np_bind ‹_› fun _ => np_ok _

theorem np_controlsOf (p : Node) : NoPanic (controlsOf env g p) := by
  fun_cases controlsOf env g p <;> simp [np_decodeControls hg]

theorem np_simpleBindParameters (p : Node) : NoPanic (simpleBindParameters env g p) := by
  refine np_bind (np_requestPacket (g.decodeAll_iff.1 hg).1 p) fun r => np_ite np_err ?_
  split
  · exact np_err
  · refine np_ite (np_ok _) (np_ite np_err ?_)
    split
    · exact np_err
    · exact np_bind (np_controlsOf hg p) fun _ => np_ok _

theorem np_searchParameters (p : Node) : NoPanic (searchParameters env g p) := by
  refine np_bind (np_requestPacket (g.decodeAll_iff.1 hg).1 p) fun r => np_ite np_err <|
    np_bind (np_octetChild _ _) fun _ => np_bind (np_intChild _ _ _) fun _ => np_bind (np_intChild _ _ _) fun _ =>
    np_bind (np_intChild _ _ _) fun _ => np_bind (np_intChild _ _ _) fun _ => np_bind (np_boolChild _ _) fun _ => ?_
  split
  · exact np_err
  · split
    · exact np_err
    · split
      · exact np_ok _
      · exact np_ite np_err <| np_bind (np_octetList _) fun _ => np_bind (np_controlsOf hg p) fun _ => np_ok _

theorem np_modifyParameters (p : Node) : NoPanic (modifyParameters env g p) := by
  refine np_bind (np_requestPacket (g.decodeAll_iff.1 hg).1 p) fun r => np_ite np_err <|
    np_bind (np_octetChild _ _) fun _ => np_ite np_err ?_
  split
  · exact np_err
  · exact np_bind (np_decodeChanges _) fun _ => np_bind (np_controlsOf hg p) fun _ => np_ok _

theorem np_addParameters (p : Node) : NoPanic (addParameters env g p) := by
  refine np_bind (np_requestPacket (g.decodeAll_iff.1 hg).1 p) fun r => np_ite np_err <|
    np_bind (np_octetChild _ _) fun _ => np_ite np_err ?_
  split
  · exact np_err
  · exact np_bind (np_decodeAttributes _) fun _ => np_bind (np_controlsOf hg p) fun _ => np_ok _

theorem np_deleteParameters (p : Node) : NoPanic (deleteParameters env g p) :=
  np_bind (np_requestPacket (g.decodeAll_iff.1 hg).1 p) fun _ =>
    np_ite np_err <| np_bind (np_controlsOf hg p) fun _ => np_ok _

theorem np_newMessage (p : Node) : NoPanic (newMessage env g p) := by
  have h1 := (g.decodeAll_iff.1 hg).1
  refine np_bind (np_requestType h1 p) fun ty => np_bind (np_requestMessageID p) fun id => ?_
  cases ty
  · exact np_bind (np_simpleBindParameters hg p) fun _ => np_ok _
  · exact np_bind (np_searchParameters hg p) fun _ => np_ok _
  · exact np_bind (np_extendedOperationName h1 p) fun _ => np_ok _
  · exact np_bind (np_modifyParameters hg p) fun _ => np_ok _
  · exact np_bind (np_addParameters hg p) fun _ => np_ok _
  · exact np_bind (np_deleteParameters hg p) fun _ => np_ok _
  · exact np_ok _

end
end Gldap
