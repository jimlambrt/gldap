import GldapModel.Spec.ClientEncode
import GldapModel.Ber.RoundTrip
/-! Value-level facts shared by the round-trip proofs (C01, C04, C14). -/
namespace Gldap
open Ber Spec

def Int64 (i : Int) : Prop := -(2^63) ≤ i ∧ i < 2^63

theorem valueOf_int {t : Nat} (ht : t = 2 ∨ t = 10) {i : Int} (h : Int64 i) : valueOf (Spec.int t i) = .int i := by
  rcases ht with rfl | rfl <;> simp [Spec.int, valueOf, parseIntLoose, parseInt64_encodeInteger i h]

theorem valueOf_bool (tt : UInt8) (htt : tt ≠ 0) (b : Bool) : valueOf (Spec.bool tt b) = .bool b := by
  cases b
  · simp [Spec.bool, valueOf, parseIntLoose, parseInt64, beNat]
  · -- one content octet `tt`: `ParseInt64` reads it as `tt` or `tt - 256`, and neither is 0
    have h0 : tt.toNat ≠ 0 := fun h => htt (UInt8.toNat_inj.mp (by simpa using h))
    have h1 := tt.toNat_lt
    simp only [Spec.bool, valueOf, parseIntLoose, parseInt64, beNat, if_true, List.length_cons, List.length_nil,
      List.foldl_cons, List.foldl_nil]
    simp
    split <;> simp <;> omega

@[simp] theorem valueOf_octet (s : Bytes) : valueOf (Spec.octet s) = .str s := rfl

@[simp] theorem octet_kids (s : Bytes) : (Spec.octet s).kids = [] := rfl
@[simp] theorem octet_data (s : Bytes) : (Spec.octet s).data = s := rfl
@[simp] theorem seq_kids (ks : List Node) : (Spec.seq ks).kids = ks := rfl
@[simp] theorem set_kids (ks : List Node) : (Spec.set ks).kids = ks := rfl
@[simp] theorem prim_cls (c t : Nat) (s : Bytes) : (Node.prim c t s).cls = c := rfl
@[simp] theorem cons_cls (c t : Nat) (ks : List Node) : (Node.cons c t ks).cls = c := rfl
@[simp] theorem prim_constructed (c t : Nat) (s : Bytes) : (Node.prim c t s).constructed = false := rfl
@[simp] theorem cons_constructed (c t : Nat) (ks : List Node) : (Node.cons c t ks).constructed = true := rfl
@[simp] theorem cons_kids (c t : Nat) (ks : List Node) : (Node.cons c t ks).kids = ks := rfl
@[simp] theorem prim_data (c t : Nat) (s : Bytes) : (Node.prim c t s).data = s := rfl
@[simp] theorem prim_tag (c t : Nat) (s : Bytes) : (Node.prim c t s).tag = t := rfl
@[simp] theorem cons_tag (c t : Nat) (ks : List Node) : (Node.cons c t ks).tag = t := rfl

@[simp] theorem isKind_prim (c t c' t' : Nat) (s : Bytes) :
    isKind (.prim c t s) c' false (some t') = (c == c' && t == t') := by
  simp [isKind, Node.cls, Node.constructed, Node.tag]
@[simp] theorem isKind_cons (c t c' t' : Nat) (ks : List Node) :
    isKind (.cons c t ks) c' true (some t') = (c == c' && t == t') := by
  simp [isKind, Node.cls, Node.constructed, Node.tag]
@[simp] theorem isKind_int (t : Nat) (i : Int) : isKind (Spec.int t i) 0 false (some t) = true := by
  simp [Spec.int, isKind, Node.cls, Node.constructed, Node.tag]
@[simp] theorem isKind_octet (s : Bytes) : isKind (Spec.octet s) 0 false (some 4) = true := rfl
@[simp] theorem isKind_bool (tt : UInt8) (b : Bool) : isKind (Spec.bool tt b) 0 false (some 1) = true := rfl
@[simp] theorem isKind_seq (ks : List Node) : isKind (Spec.seq ks) 0 true (some 16) = true := rfl
@[simp] theorem isKind_set (ks : List Node) : isKind (Spec.set ks) 0 true (some 17) = true := rfl

theorem encodeInteger_length_le (i : Int) (h : Int64 i) : (encodeInteger i).length ≤ 8 := by
  obtain ⟨k, hk, hl, _⟩ := int64Length_spec i h
  rw [encodeInteger, encBE_length, hl]; omega

theorem encLen_length_le (n : Nat) (h : n < 2^63) : (encLen n).length ≤ 9 := by
  obtain ⟨_, _, e⟩ | ⟨b, d, _, _, hl, _, e⟩ := encLen_shape n h <;> rw [e]
  · exact Nat.le_of_ble_eq_true rfl
  · exact Nat.succ_le_succ hl

/-- well-formed and serialised in at most `b` bytes: the budget is what the length condition of an
    enclosing constructed node asks for. A header is one identifier octet (tags below 31) and at most
    nine length octets, hence the `10 +` below. -/
def Fits (ext : Nat → Bytes → Bool) (b : Nat) (n : Node) : Prop := n.WF ext ∧ (ser n).length ≤ b
def FitsAll (ext : Nat → Bytes → Bool) (b : Nat) (ns : List Node) : Prop := WFAll ext ns ∧ (serAll ns).length ≤ b

theorem Fits.prim {ext : Nat → Bytes → Bool} {c t b : Nat} {content : Bytes} (hc : c < 4) (ht : t < 31)
    (hok : primOK ext c t content = true) (hl : content.length ≤ b) (hb : b ≤ maxPrim) :
    Fits ext (10 + b) (.prim c t content) := by
  have h1 : (encId c false t).length = 1 := by simp [encId, ht]
  have h2 := encLen_length_le content.length (Nat.lt_of_le_of_lt (Nat.le_trans hl hb) (by decide))
  exact ⟨⟨hc, ht, Nat.le_trans hl hb, hok⟩, by simp only [ser, List.length_append, h1]; omega⟩

theorem Fits.cons {ext : Nat → Bytes → Bool} {c t b : Nat} {kids : List Node} (hc : c < 4) (ht : t < 31)
    (hk : FitsAll ext b kids) (hb : b < 2^63) : Fits ext (10 + b) (.cons c t kids) := by
  have h1 : (encId c true t).length = 1 := by simp [encId, ht]
  have h2 := encLen_length_le (serAll kids).length (Nat.lt_of_le_of_lt hk.2 hb)
  exact ⟨⟨hc, ht, Nat.lt_of_le_of_lt hk.2 hb, hk.1⟩, by
    have := hk.2; simp only [ser, List.length_append, h1]; omega⟩

theorem FitsAll.nil {ext : Nat → Bytes → Bool} : FitsAll ext 0 [] := ⟨trivial, Nat.le_refl 0⟩

theorem FitsAll.cons {ext : Nat → Bytes → Bool} {b1 b2 : Nat} {n : Node} {ns : List Node} (h : Fits ext b1 n)
    (he : isEOC n = false) (hs : FitsAll ext b2 ns) : FitsAll ext (b1 + b2) (n :: ns) :=
  ⟨⟨h.1, he, hs.1⟩, by simp only [serAll, List.length_append]; exact Nat.add_le_add h.2 hs.2⟩

end Gldap
