import GldapModel.Directory.Store
/-! Lemmas about `match` on the filter "(dn)" for well-formed DNs. -/
namespace Directory
open Ber Gldap

/- Instance search for `LawfulBEq (List UInt8)` tries the instances derived from the order on
   `UInt8`, and fails only after unfolding them, before it takes the one from decidable equality:
   once in every proof that turns `a == b` on DNs into `a = b`. These two are found first. -/
instance : LawfulBEq Bytes := inferInstance
instance : ReflBEq Bytes := inferInstance

/-- a DN the store property talks about: non-empty, none of `( ) * |` or newline, no outer spaces -/
structure CleanDN (d : Bytes) : Prop where
  ne : d ≠ []
  chars : ∀ b ∈ d, b.toNat ≠ 40 ∧ b.toNat ≠ 41 ∧ b.toNat ≠ 42 ∧ b.toNat ≠ 124 ∧ b.toNat ≠ 10
  first : ∀ a t, d = a :: t → isSpace a = false
  last : ∀ i z, d = i ++ [z] → isSpace z = false

/-- `CleanDN` from tests that a concrete DN passes by evaluation -/
theorem CleanDN.of_check {d : Bytes} (h1 : d ≠ [])
    (h2 : ∀ b ∈ d, b.toNat ≠ 40 ∧ b.toNat ≠ 41 ∧ b.toNat ≠ 42 ∧ b.toNat ≠ 124 ∧ b.toNat ≠ 10)
    (h3 : ∀ a ∈ d.head?, isSpace a = false) (h4 : ∀ z ∈ d.getLast?, isSpace z = false) : CleanDN d :=
  ⟨h1, h2, fun a t e => h3 a (by rw [e]; rfl), fun i z e => h4 z (by rw [e]; simp)⟩

theorem closeParen_clean (d rest : Bytes) (h : ∀ b ∈ d, b.toNat ≠ 41 ∧ b.toNat ≠ 10) :
    closeParen (d ++ 41 :: rest) = some (d ++ [41], rest) := by
  induction d with
  | nil => rfl
  | cons b bs ih =>
    have hb := h b List.mem_cons_self
    rw [List.cons_append, closeParen, if_neg (mt beq_iff_eq.mp hb.2), if_neg (mt beq_iff_eq.mp hb.1),
      ih fun x hx => h x (List.mem_cons_of_mem b hx)]
    rfl

theorem findParens_paren (d : Bytes) (h : ∀ b ∈ d, b.toNat ≠ 41 ∧ b.toNat ≠ 10) (f : Nat) (hf : 2 ≤ f) :
    findParens f (paren d) = [paren d] := by
  obtain ⟨f', rfl⟩ : ∃ f', f = f' + 2 := ⟨f - 2, by omega⟩
  have hc := closeParen_clean d [] h
  simp only [paren, List.cons_append, List.nil_append] at hc ⊢
  have h40 : ((40 : UInt8).toNat == 40) = true := by decide
  simp only [findParens, h40, if_true, hc]

theorem trimLeft_strip (cut : UInt8 → Bool) (pre : Bytes) (a : UInt8) (t : Bytes) (hpre : pre.all cut = true)
    (ha : cut a = false) : trimLeft cut (pre ++ a :: t) = a :: t := by
  induction pre with
  | nil => rw [List.nil_append, trimLeft, ha]; rfl
  | cons b pre ih =>
    rw [List.all_cons, Bool.and_eq_true] at hpre
    rw [List.cons_append, trimLeft, hpre.1, if_pos rfl, ih hpre.2]

/-- `strings.Trim` takes a prefix and a suffix inside the cutset off a string that begins (`a`)
    and ends (`z`) outside it -/
theorem trim_strip (cut : UInt8 → Bool) (pre post t i : Bytes) (a z : UInt8) (e : a :: t = i ++ [z])
    (hpre : pre.all cut = true) (hpost : post.all cut = true) (ha : cut a = false) (hz : cut z = false) :
    trim cut (pre ++ a :: t ++ post) = a :: t := by
  unfold trim
  rw [List.append_assoc, List.cons_append, trimLeft_strip cut pre a _ hpre ha, ← List.cons_append, e, List.reverse_append,
    List.reverse_append, List.reverse_singleton, List.singleton_append,
    trimLeft_strip cut post.reverse z _ (by rw [List.all_reverse]; exact hpost) hz]
  simp

theorem isPrefix_refl (s : Bytes) : isPrefix s s = true := by
  induction s with
  | nil => rfl
  | cons a t ih => simp [isPrefix, ih]

/-- `strings.Contains(s, s)` -/
theorem containsBytes_refl (s : Bytes) : containsBytes s s = true := by
  cases s with
  | nil => rfl
  | cons a t => simp [containsBytes, isPrefix_refl]

/-- stripping the parentheses that `find` wraps around a clean DN gives the DN back -/
theorem cleanElement_paren (d : Bytes) (h : CleanDN d) : cleanElement (paren d) = d := by
  obtain ⟨a, t, rfl⟩ : ∃ a t, d = a :: t := by
    cases d with
    | nil => exact absurd rfl h.ne
    | cons a t => exact ⟨a, t, rfl⟩
  obtain ⟨i, z, e⟩ : ∃ i z, a :: t = i ++ [z] := ⟨_, _, (List.dropLast_concat_getLast (by simp)).symm⟩
  have ha := h.chars a (by simp)
  have hz := h.chars z (by rw [e]; simp)
  -- ReplaceAll "*", then the four trims: each takes off what it is meant to and nothing of the DN
  have e0 : (a :: t).filter (fun b => b.toNat != 42) = a :: t :=
    List.filter_eq_self.mpr fun b hb => by simp [(h.chars b hb).2.2.1]
  have e1 : (paren (a :: t)).filter (fun b => b.toNat != 42) = 40 :: a :: (t ++ [41]) := by
    simp only [paren, List.filter_append, e0]; rfl
  have e2 := trim_strip (fun b => b.toNat == 124 || b.toNat == 40) [40] [] (t ++ [41]) (a :: t) a 41 rfl rfl rfl
    (by simp [ha.1, ha.2.2.2.1]) rfl
  have e3 := trim_strip (fun b => b.toNat == 40) [] [] (t ++ [41]) (a :: t) a 41 rfl rfl rfl (by simp [ha.1]) rfl
  have e4 := trim_strip (fun b => b.toNat == 41) [] [41] t i a z e rfl rfl (by simp [ha.2.1]) (by simp [hz.2.1])
  have e5 := trim_strip isSpace [] [] t i a z e rfl rfl (h.first a t rfl) (h.last i z e)
  simp only [List.nil_append, List.append_nil, List.cons_append] at e2 e3 e4 e5
  simp only [cleanElement, e1, e2, e3, e4, e5]

/-- on the filter "(dn)" of a clean DN, `match` is the substring test -/
theorem matchFilter_paren (d x : Bytes) (h : CleanDN d) : matchFilter (paren d) x = containsBytes x d := by
  unfold matchFilter
  rw [findParens_paren d (fun b hb => ⟨(h.chars b hb).2.1, (h.chars b hb).2.2.2.2⟩) _
    (by simp [paren]), List.any_cons, List.any_nil, Bool.or_false, cleanElement_paren d h]

end Directory
