import GldapModel.Gldap.ControlEncode
/-! `strconv.ParseInt(strconv.FormatInt(i, 10), 10, 64) = i` for every int64 (byte-level models). -/
namespace Gldap
open Ber

theorem digit_toNat (k : Nat) (h : k < 10) : ((48 + k).toUInt8).toNat = 48 + k :=
  toUInt8_toNat (by omega)

theorem digitStep_digit (acc k : Nat) (h : k < 10) : digitStep acc (48 + k).toUInt8 = some (acc * 10 + k) := by
  rw [digitStep, digit_toNat k h, if_pos (by omega), Nat.add_sub_cancel_left]

/-- the digits before the last read as `n / 10`, and the last one adds `n % 10` -/
theorem foldlM_decDigits (n : Nat) : (decDigits n).foldlM digitStep 0 = some n := by
  fun_induction decDigits n with
  | case1 n h => rw [List.foldlM_cons, digitStep_digit 0 n h, Nat.zero_mul, Nat.zero_add]; rfl
  | case2 n h ih =>
    rw [List.foldlM_append, ih, Option.bind_eq_bind, Option.bind_some, List.foldlM_cons,
      digitStep_digit _ _ (Nat.mod_lt n (by omega)), Nat.div_add_mod']; rfl

/-- `decDigits n` starts with a digit, so neither with a sign nor empty -/
theorem decDigits_head (n : Nat) : ∃ d ds, decDigits n = d :: ds ∧ 48 ≤ d.toNat ∧ d.toNat ≤ 57 := by
  fun_induction decDigits n with
  | case1 n h => exact ⟨_, [], rfl, by rw [digit_toNat n h]; omega, by rw [digit_toNat n h]; omega⟩
  | case2 n h ih =>
    obtain ⟨d, ds, hd, h1, h2⟩ := ih
    exact ⟨d, ds ++ [(48 + n % 10).toUInt8], by rw [hd]; rfl, h1, h2⟩

theorem parseDigits_decDigits (n : Nat) : parseDigits (decDigits n) = some n := by
  obtain ⟨d, ds, hd, -⟩ := decDigits_head n
  rw [hd, parseDigits, ← hd, foldlM_decDigits]
  nofun  -- the equation of `parseDigits` asks that the digits are not `[]`

theorem parseDecimal_formatInt (i : Int) (h : -(2^63) ≤ i ∧ i < 2^63) : parseDecimal (formatInt i) = some i := by
  unfold formatInt
  split
  · rw [parseDecimal, if_pos (by decide), parseDigits_decDigits, Option.bind_some,
      show -((-i).toNat : Int) = i by omega, int64Range, if_pos h]
  · obtain ⟨d, ds, hd, h1, h2⟩ := decDigits_head i.toNat
    rw [hd, parseDecimal, if_neg (by omega), if_neg (by omega), ← hd, parseDigits_decDigits,
      Option.bind_some, show (i.toNat : Int) = i by omega, int64Range, if_pos h]

end Gldap
