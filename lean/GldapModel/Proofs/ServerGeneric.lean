import GldapModel.Proofs.ServerStep
/-! What holds of the server whatever the other facts are: core steps leave `alive` alone (C07), `ready` is written
    by `runListen` alone and Run never returns to `notStarted` (C17; the readiness invariant `RInv` asks
    `readyOnlyOnSuccess` of the facts and nothing else), the connection ids (C09). -/
namespace Server

theorem CoreStep.alive {F : Facts} {s s' : Srv} {l : Label} (h : CoreStep F s l s') : s'.alive = s.alive := by
  cases h <;> rfl

/-- once Run has started it stays started and nothing writes `ready` any more -/
theorem CoreStep.started {F : Facts} {s s' : Srv} {l : Label} (h : CoreStep F s l s') (hr : s.run ≠ .notStarted) :
    s'.run ≠ .notStarted ∧ s'.ready = s.ready := by
  cases h with
  | listen _ h0 => exact absurd h0 hr
  | acceptErr => exact ⟨by dsimp only; split <;> nofun, rfl⟩
  | stopIdle | stopClose | stopCancel | stopWait | conn => exact ⟨hr, rfl⟩
  | loopTopCancelled | loopTop | acceptOk | acceptClosed | spawnRefused | spawn => exact ⟨nofun, rfl⟩

theorem run_started {F : Facts} {ls : List Label} {s s' : Srv} (hs : s.run ≠ .notStarted) (hr : run F s ls = some s') :
    s'.ready = s.ready :=
  (run_invariant_core (P := fun t => t.run ≠ .notStarted ∧ t.ready = s.ready)
    (fun h hc => (hc.started h.1).imp id (·.trans h.2)) id ⟨hs, rfl⟩ hr).2

theorem ite_closed_ne {p : Prop} [Decidable p] {l r : Lst} (hr : .closed ≠ r) (h : ¬p → l ≠ r) :
    (if p then .closed else l) ≠ r := by
  split
  · exact hr
  · exact h ‹_›

structure RInv (s : Srv) : Prop where
  notStarted : s.run = .notStarted → s.lst = .none ∧ s.ready = false
  rdy : s.ready = true → s.lst ≠ .none

theorem rinv_init (n : Nat) : RInv (init n) := ⟨fun _ => ⟨rfl, rfl⟩, nofun⟩

theorem rinv_core {F : Facts} (hF : F.readyOnlyOnSuccess = true) {s s' : Srv} {l : Label} (h : RInv s)
    (hs : CoreStep F s l s') : RInv s' := by
  obtain ⟨h1, h2⟩ := h
  cases hs with
  | listen ok => cases ok <;> exact ⟨nofun, by simp [hF]⟩
  | loopTopCancelled => exact ⟨nofun, fun h => ite_closed_ne nofun fun _ => h2 h⟩
  | acceptErr => exact ⟨by dsimp only; split <;> nofun, h2⟩
  | stopClose => exact ⟨fun h => by simp [h1 h], fun h => ite_closed_ne nofun fun _ => h2 h⟩
  | stopIdle | stopCancel | stopWait | conn => exact ⟨h1, h2⟩
  | loopTop | acceptOk | acceptClosed | spawnRefused | spawn => exact ⟨nofun, h2⟩

theorem rinv_run {F : Facts} (hF : F.readyOnlyOnSuccess = true) {ls : List Label} {s s' : Srv} (h : RInv s)
    (hr : run F s ls = some s') : RInv s' :=
  run_invariant_core (rinv_core hF) (fun h => ⟨h.1, h.2⟩) h hr

def idsOf (s : Srv) : List Nat := s.conns.map (·.id)

theorem idsOf_mod (s : Srv) (c : Nat) (f : Conn → Conn) (hf : ∀ x, (f x).id = x.id) (s' : Srv)
    (h : s'.conns = modConn s.conns c f) : idsOf s' = idsOf s := by
  unfold idsOf; rw [h]; exact modConn_ids s.conns c hf

/-- connection-id invariant: ids handed out are positive, bounded by the counter, strictly
    below it while an accept is in flight, and pairwise distinct -/
structure IInv (s : Srv) : Prop where
  nodup : (idsOf s).Nodup
  pos : ∀ i ∈ idsOf s, 0 < i ∧ i ≤ s.nextConn
  lt : (s.run = .accepting ∨ s.run = .accepted) → 0 < s.nextConn ∧ ∀ i ∈ idsOf s, i < s.nextConn

theorem iinv_init (n : Nat) : IInv (init n) := ⟨.nil, nofun, nofun⟩

theorem iinv_core {F : Facts} {s s' : Srv} {l : Label} (h : IInv s) (hs : CoreStep F s l s') : IInv s' := by
  obtain ⟨hn, hp, hl⟩ := h
  have bump : ∀ i ∈ idsOf s, i < s.nextConn + 1 := fun i hi => Nat.lt_succ_of_le (hp i hi).2
  cases hs with
  | listen ok => exact ⟨hn, hp, by cases ok <;> nofun⟩
  | loopTopCancelled | loopTop => exact ⟨hn, fun i hi => ⟨(hp i hi).1, Nat.le_of_lt (bump i hi)⟩, fun _ => ⟨Nat.succ_pos _, bump⟩⟩
  | acceptOk hr => exact ⟨hn, hp, fun _ => hl (.inl hr)⟩
  | acceptErr => exact ⟨hn, hp, by dsimp only; split <;> nofun⟩
  | acceptClosed | spawnRefused => exact ⟨hn, hp, nofun⟩
  | spawn hr =>
    -- the new id is the counter, which every id in use is strictly below
    obtain ⟨h0, hlt⟩ := hl (.inr hr)
    have e : idsOf { s with run := .loopTop, connWg := s.connWg + 1, conns := s.conns ++ [newConn s.nextConn] }
        = idsOf s ++ [s.nextConn] := by simp [idsOf, newConn]
    refine ⟨?_, ?_, nofun⟩ <;> rw [e]
    · exact List.nodup_append.mpr ⟨hn, by simp, fun a ha b hb => by
        obtain rfl := List.mem_singleton.mp hb; exact Nat.ne_of_lt (hlt a ha)⟩
    · intro i hi
      rcases List.mem_append.mp hi with hi | hi
      · exact hp i hi
      · obtain rfl := List.mem_singleton.mp hi; exact ⟨h0, Nat.le_refl _⟩
  | stopIdle | stopClose | stopCancel | stopWait => exact ⟨hn, hp, hl⟩
  | @conn c _ _ f d _ hc =>
    have e : idsOf { s with connWg := s.connWg - d, conns := modConn s.conns c f } = idsOf s := modConn_ids _ _ hc.id
    exact ⟨e ▸ hn, e ▸ hp, e ▸ hl⟩

theorem iinv_run {F : Facts} {ls : List Label} {s s' : Srv} (h : IInv s) (hr : run F s ls = some s') : IInv s' :=
  run_invariant_core iinv_core (fun h => ⟨h.1, h.2, h.3⟩) h hr

end Server
