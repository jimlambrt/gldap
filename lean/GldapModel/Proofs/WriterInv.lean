import GldapModel.Runtime.Writer
import GldapModel.Runtime.Run
/-! The invariant of the writer model under the good order `[lock, write, flush, unlock]`: everybody but the
    holder of the mutex is outside `Write`, and the holder stands at one of the five lines of `Crit`. -/
namespace Writer
open Ber

/-- Where the holder of the mutex stands with its frame `f`: `base` is what the wire held when it took
    the mutex; each line is the state before the next half-operation (`write`, `flush` have two). -/
def Crit (pc : Nat) (half : Bool) (buf wire seen base f : Bytes) : Prop :=
  (pc = 1 ∧ half = false ∧ buf = [] ∧ wire = base) ∨
  (pc = 1 ∧ half = true ∧ buf = [] ∧ seen = [] ∧ wire = base) ∨
  (pc = 2 ∧ half = false ∧ wire ++ buf = base ++ f) ∨
  (pc = 2 ∧ half = true ∧ wire = base ++ f) ∨
  (pc = 3 ∧ half = false ∧ buf = [] ∧ wire = base ++ f)

/-- only the holder of the mutex is inside `Write`; with the mutex free the buffer is empty and the
    wire holds the completed frames -/
structure Inv (frames : Nat → List Bytes) (s : WS) : Prop where
  acct : ∀ w, ((s.done.filter (·.1 = w)).map (·.2)) ++ s.todo w = frames w
  idle : ∀ x, s.mutex ≠ some x → s.pc x = 0 ∧ s.half x = false
  free : s.mutex = none → s.buf = [] ∧ s.wire = flat s.done
  held : ∀ w, s.mutex = some w → ∃ f rest, s.todo w = f :: rest ∧
    Crit (s.pc w) (s.half w) s.buf s.wire (s.seen w) (flat s.done) f

theorem inv_init (frames) : Inv frames (init frames) := by
  constructor <;> simp [init, flat]

theorem flat_append (d : List (Nat × Bytes)) (w : Nat) (f : Bytes) : flat (d ++ [(w, f)]) = flat d ++ f := by
  simp [flat]

theorem inv_step (frames) (s s' : WS) (w k : Nat) (h : Inv frames s)
    (hs : step good s w k = some s') : Inv frames s' := by
  obtain ⟨mutex, buf, wire, pc, half, seen, todo, done⟩ := s
  obtain ⟨acct, idle, free, held⟩ := h
  unfold step at hs
  simp only at acct idle free held hs
  split at hs
  · cases hs
  rename_i f rest htodo
  cases mutex with
  | none =>
    -- nobody is inside: `w` is at `lock`
    obtain ⟨h0, hh⟩ := idle w nofun
    obtain ⟨hb, hw⟩ := free rfl
    simp [h0, good, advance] at hs
    subst hs
    refine ⟨acct, fun x hx => ?_, nofun, fun x hx => ?_⟩
    · have hxw : x ≠ w := fun e => hx (e ▸ rfl)
      simpa [hxw] using idle x nofun
    · cases hx
      exact ⟨f, rest, htodo, by simp [Crit, hb, hw, hh]⟩
  | some v =>
    by_cases hv : v = w
    case neg =>
      -- somebody else is inside: `w` is at `lock` and the mutex is taken
      obtain ⟨h0, -⟩ := idle w (by simp [hv])
      simp [h0, good] at hs
    subst hv
    obtain ⟨f', rest', htodo', hc⟩ := held v rfl
    cases htodo.symm.trans htodo'
    have ne : ∀ x, some v ≠ some x → x ≠ v := fun x hx e => hx (e ▸ rfl)
    -- the five lines of `Crit`; in each the guards of `step` compute and `hs` shows the state after
    rcases hc with ⟨hp, hh, hb, hw⟩ | ⟨hp, hh, hb, hsn, hw⟩ | ⟨hp, hh, hw⟩ | ⟨hp, hh, hw⟩ | ⟨hp, hh, hb, hw⟩ <;>
      simp [hp, hh, good, advance] at hs <;> subst hs
    -- a half of `write` or `flush`: the holder moves to the next line of `Crit`, nobody else is touched
    iterate 4
      refine ⟨acct, fun x hx => by simpa [ne x hx] using idle x hx, nofun, fun x hx => ?_⟩
      cases hx
      exact ⟨f, rest, htodo, by simp [Crit, *]⟩
    -- `unlock` completes the call: `f` joins `done` and leaves `todo v`
    refine ⟨fun x => ?_, fun x _ => ?_, fun _ => by simp [hb, hw, flat_append], nofun⟩
    · by_cases hx : x = v
      · subst hx; simpa [List.filter_append, htodo] using acct x
      · simpa [List.filter_append, hx, Ne.symm hx] using acct x
    · by_cases hx : x = v
      · subst hx; simp [hh]
      · simpa [hx] using idle x fun e => hx (Option.some.inj e).symm

theorem isRun (seq : List WOp) : Run.IsRun (fun s l => step seq s l.1 l.2) (run seq) := ⟨fun _ => rfl, fun _ _ _ => rfl⟩

theorem inv_run (frames) (ls : List (Nat × Nat)) (s s' : WS) (h : Inv frames s)
    (hr : run good s ls = some s') : Inv frames s' :=
  (isRun good).invariant (fun hi hs => inv_step frames _ _ _ _ hi hs) hr h

/-- C05 on the model: whenever the mutex is free, the wire is exactly the concatenation of the
    completed frames, and per writer completed ++ remaining = what it set out to write. -/
theorem C05_whole_frames (frames : Nat → List Bytes) (ls : List (Nat × Nat)) (s : WS)
    (hr : run good (init frames) ls = some s) (hfree : s.mutex = none) :
    s.wire = flat s.done ∧ ∀ w, ((s.done.filter (·.1 = w)).map (·.2)) ++ s.todo w = frames w := by
  have h := inv_run frames ls (init frames) s (inv_init frames) hr
  exact ⟨(h.free hfree).2, h.acct⟩

end Writer
