import GldapModel.Ber.Parse
/-! Every reader of the BER layer is a *prefix reader*: a successful read splits its input into
    the bytes it took and the rest it returns, and the outcome is the same whatever stands in
    place of that rest (and, for the fuelled readers, with any larger fuel). That the reader makes
    progress, that it is streaming and that spare fuel is immaterial are all read off this, for
    every byte string the reader accepts (indefinite lengths, padded lengths, high tag numbers),
    where `parse_ser` speaks of canonical encodings only. -/
namespace Ber

/-- A read of `bs` that returned `rest` took a prefix of at least `k` bytes, and comes out the same
    (`again input output`) with any `t` in place of `rest`. -/
def PrefixRead (k : Nat) (bs rest : Bytes) (again : Bytes → Bytes → Prop) : Prop :=
  ∃ pre, k ≤ pre.length ∧ bs = pre ++ rest ∧ ∀ t, again (pre ++ t) t

section
variable {k : Nat} {bs rest : Bytes} {again : Bytes → Bytes → Prop}

theorem PrefixRead.intro (pre : Bytes) (hk : k ≤ pre.length) (hbs : bs = pre ++ rest)
    (e : ∀ t, again (pre ++ t) t) : PrefixRead k bs rest again :=
  ⟨pre, hk, hbs, e⟩

theorem PrefixRead.len (h : PrefixRead k bs rest again) : rest.length + k ≤ bs.length := by
  obtain ⟨pre, hk, rfl, _⟩ := h
  rw [List.length_append]; omega

theorem PrefixRead.self (h : PrefixRead k bs rest again) : again bs rest := by
  obtain ⟨pre, _, rfl, e⟩ := h
  exact e rest

theorem PrefixRead.ext (h : PrefixRead k bs rest again) (t : Bytes) : again (bs ++ t) (rest ++ t) := by
  obtain ⟨pre, _, rfl, e⟩ := h
  rw [List.append_assoc]; exact e _

end

theorem readHighTag_prefix {acc cnt : Nat} {bs : Bytes} {tag : Nat} {rest : Bytes}
    (h : readHighTag acc cnt bs = some (tag, rest)) :
    PrefixRead 1 bs rest fun i o => readHighTag acc cnt i = some (tag, o) := by
  fun_induction readHighTag acc cnt bs with
  | case1 | case2 | case3 => contradiction  -- no input, zero first digit, more than 9 digits
  | case4 acc cnt b bs acc' cnt' h1 h2 h3 =>  -- last digit
    injection h with h; injection h with ha hb; subst ha hb
    exact .intro [b] (Nat.le_refl _) rfl fun t => by
      rw [List.singleton_append, readHighTag, if_neg h1, if_neg h2, if_pos h3]
  | case5 acc cnt b bs acc' cnt' h1 h2 h3 ih =>  -- continuation digit
    obtain ⟨pre, _, rfl, e⟩ := ih h
    exact .intro (b :: pre) (Nat.le_add_left ..) rfl fun t => by
      rw [List.cons_append, readHighTag, if_neg h1, if_neg h2, if_neg h3, e]

theorem readIdent_prefix {bs : Bytes} {c : Nat} {k : Bool} {tag : Nat} {rest : Bytes} :
    readIdent bs = some (c, k, tag, rest) →
    PrefixRead 1 bs rest fun i o => readIdent i = some (c, k, tag, o) := by
  fun_cases readIdent bs with
  | case1 | case3 => nofun  -- no input, high tag number not read
  | case2 b bs _ _ _ h1 =>  -- tag number below 31, in the first octet
    simp only [Option.some.injEq, Prod.mk.injEq]
    rintro ⟨rfl, rfl, rfl, rfl⟩
    exact .intro [b] (Nat.le_refl _) rfl fun t => by rw [List.singleton_append, readIdent, if_pos h1]
  | case4 b bs _ _ _ h1 tg r hh =>  -- high tag number
    simp only [Option.some.injEq, Prod.mk.injEq]
    rintro ⟨rfl, rfl, rfl, rfl⟩
    obtain ⟨pre, _, rfl, e⟩ := readHighTag_prefix hh
    exact .intro (b :: pre) (Nat.le_add_left ..) rfl fun t => by rw [List.cons_append, readIdent, if_neg h1, e]

theorem readLen_prefix {bs : Bytes} {l : Option Nat} {rest : Bytes} : readLen bs = some (l, rest) →
    PrefixRead 1 bs rest fun i o => readLen i = some (l, o) := by
  fun_cases readLen bs with
  -- no input, 0xFF, more than 8 length octets, too few of them, a length from 2^63 other than 2^64-1
  | case1 | case2 | case5 | case6 | case9 => nofun
  | case3 b bs h1 h2 =>  -- 0x80: indefinite
    rintro ⟨⟩
    exact .intro [b] (Nat.le_refl _) rfl fun t => by rw [List.singleton_append, readLen, if_neg h1, if_pos h2]
  | case4 b bs h1 h2 h3 =>  -- short form
    rintro ⟨⟩
    exact .intro [b] (Nat.le_refl _) rfl fun t => by
      rw [List.singleton_append, readLen, if_neg h1, if_neg h2, if_pos h3]
  | case7 b bs h1 h2 h3 k h4 h5 v h6 =>  -- long form, a length below 2^63
    rintro ⟨⟩
    have hk : (bs.take k).length = k := List.length_take_of_le (Nat.le_of_not_lt h5)
    refine .intro (b :: bs.take k) (Nat.le_add_left ..) (by rw [List.cons_append, List.take_append_drop]) fun t => ?_
    rw [List.cons_append, readLen, if_neg h1, if_neg h2, if_neg h3, if_neg h4,
      if_neg (by rw [List.length_append]; omega), List.take_left' hk, List.drop_left' hk, if_pos h6]
  | case8 b bs h1 h2 h3 k h4 h5 v h6 h7 =>  -- long form, 2^64-1: indefinite
    rintro ⟨⟩
    have hk : (bs.take k).length = k := List.length_take_of_le (Nat.le_of_not_lt h5)
    refine .intro (b :: bs.take k) (Nat.le_add_left ..) (by rw [List.cons_append, List.take_append_drop]) fun t => ?_
    rw [List.cons_append, readLen, if_neg h1, if_neg h2, if_neg h3, if_neg h4,
      if_neg (by rw [List.length_append]; omega), List.take_left' hk, List.drop_left' hk, if_neg h6,
      if_pos h7]

/-- The three readers of the tree together, by induction on the fuel. `fun_cases` wants the fuel
    a variable, hence the course-of-values induction. -/
theorem parse_kids_prefix (ext : Nat → Bytes → Bool) (fuel : Nat) :
    (∀ bs n rest, parse ext fuel bs = some (n, rest) →
      PrefixRead 2 bs rest fun i o => ∀ k, parse ext (fuel + k) i = some (n, o)) ∧
    (∀ rem bs ks rest, kidsDef ext fuel rem bs = some (ks, rest) →
      PrefixRead 0 bs rest fun i o => ∀ k, kidsDef ext (fuel + k) rem i = some (ks, o)) ∧
    (∀ bs ks rest, kidsIndef ext fuel bs = some (ks, rest) →
      PrefixRead 0 bs rest fun i o => ∀ k, kidsIndef ext (fuel + k) i = some (ks, o)) := by
  induction fuel using Nat.strongRecOn with | _ fuel ih => ?_
  refine ⟨fun bs n rest => ?_, fun rem bs ks rest => ?_, fun bs ks rest => ?_⟩
  · fun_cases parse ext fuel bs with
    | case5 fuel bs cls tag r1 r2 n kids rest hk hid hlen =>  -- constructed, definite length
      rintro ⟨⟩
      obtain ⟨p1, hp1, rfl, e1⟩ := readIdent_prefix hid
      obtain ⟨p2, hp2, rfl, e2⟩ := readLen_prefix hlen
      obtain ⟨p3, _, rfl, e3⟩ := (ih _ (Nat.lt_succ_self _)).2.1 _ _ _ _ hk
      refine .intro (p1 ++ p2 ++ p3) (by simp only [List.length_append]; omega)
        (by simp only [List.append_assoc]) fun t k => ?_
      rw [Nat.succ_add]
      simp only [parse, List.append_assoc, e1, e2, e3, ↓reduceIte]
    | case7 fuel bs cls tag r1 r2 kids rest hk hid hlen =>  -- constructed, indefinite length
      rintro ⟨⟩
      obtain ⟨p1, hp1, rfl, e1⟩ := readIdent_prefix hid
      obtain ⟨p2, hp2, rfl, e2⟩ := readLen_prefix hlen
      obtain ⟨p3, _, rfl, e3⟩ := (ih _ (Nat.lt_succ_self _)).2.2 _ _ _ hk
      refine .intro (p1 ++ p2 ++ p3) (by simp only [List.length_append]; omega)
        (by simp only [List.append_assoc]) fun t k => ?_
      rw [Nat.succ_add]
      simp only [parse, List.append_assoc, e1, e2, e3, ↓reduceIte]
    | case11 fuel bs cls cons tag r1 hid r2 hc n h1 h2 content hok hlen =>  -- primitive
      rintro ⟨⟩
      obtain ⟨p1, hp1, rfl, e1⟩ := readIdent_prefix hid
      obtain ⟨p2, hp2, rfl, e2⟩ := readLen_prefix hlen
      have hn : (r2.take n).length = n := List.length_take_of_le (Nat.le_of_not_lt h2)
      refine .intro (p1 ++ p2 ++ r2.take n) (by simp only [List.length_append]; omega)
        (by simp only [List.append_assoc, List.take_append_drop]) fun t k => ?_
      have h2' : ¬ (r2.take n ++ t).length < n := by rw [List.length_append]; omega
      rw [Nat.succ_add]
      simp only [parse, List.append_assoc, e1, e2, hc, h1, h2', List.take_left' hn, List.drop_left' hn,
        ↓reduceIte]
      exact if_pos hok
    | _ => nofun  -- the failing branches
  · fun_cases kidsDef ext fuel rem bs with
    | case2 fuel rem bs h0 =>  -- nothing remains
      rintro ⟨⟩
      exact .intro [] (Nat.le_refl _) rfl fun t k => by rw [Nat.succ_add, kidsDef, if_pos h0]; rfl
    | case7 fuel rem bs h0 child rest hp consumed he hgt kids rest1 hk =>  -- a child, then the others
      rintro ⟨⟩
      obtain ⟨pc, _, rfl, ec⟩ := (ih _ (Nat.lt_succ_self _)).1 _ _ _ hp
      obtain ⟨pk, _, rfl, ek⟩ := (ih _ (Nat.lt_succ_self _)).2.1 _ _ _ _ hk
      -- `consumed` is the length of what the child took, whatever follows it
      simp only [consumed, length_append_sub] at hgt ek
      refine .intro (pc ++ pk) (Nat.zero_le _) (by rw [List.append_assoc]) fun t k => ?_
      rw [Nat.succ_add]
      simp only [kidsDef, List.append_assoc, ec, length_append_sub, h0, he, hgt, ek, Bool.false_eq_true,
        ↓reduceIte]
    | _ => nofun
  · fun_cases kidsIndef ext fuel bs with
    | case3 fuel bs child rest hp he =>  -- the end-of-contents marker
      rintro ⟨⟩
      obtain ⟨pc, _, rfl, ec⟩ := (ih _ (Nat.lt_succ_self _)).1 _ _ _ hp
      exact .intro pc (Nat.zero_le _) rfl fun t k => by
        rw [Nat.succ_add]; simp only [kidsIndef, ec, he, ↓reduceIte]
    | case5 fuel bs child rest hp he kids rest1 hk =>  -- a child, then the others
      rintro ⟨⟩
      obtain ⟨pc, _, rfl, ec⟩ := (ih _ (Nat.lt_succ_self _)).1 _ _ _ hp
      obtain ⟨pk, _, rfl, ek⟩ := (ih _ (Nat.lt_succ_self _)).2.2 _ _ _ hk
      exact .intro (pc ++ pk) (Nat.zero_le _) (by rw [List.append_assoc]) fun t k => by
        rw [Nat.succ_add]
        simp only [kidsIndef, List.append_assoc, ec, he, ek, Bool.false_eq_true, ↓reduceIte]
    | _ => nofun

theorem parse_prefix {ext : Nat → Bytes → Bool} {fuel : Nat} {bs : Bytes} {n : Node} {rest : Bytes}
    (h : parse ext fuel bs = some (n, rest)) :
    PrefixRead 2 bs rest fun i o => ∀ k, parse ext (fuel + k) i = some (n, o) :=
  (parse_kids_prefix ext fuel).1 _ _ _ h

theorem kidsDef_prefix {ext : Nat → Bytes → Bool} {fuel rem : Nat} {bs : Bytes} {ks : List Node} {rest : Bytes}
    (h : kidsDef ext fuel rem bs = some (ks, rest)) :
    PrefixRead 0 bs rest fun i o => ∀ k, kidsDef ext (fuel + k) rem i = some (ks, o) :=
  (parse_kids_prefix ext fuel).2.1 _ _ _ _ h

theorem kidsIndef_prefix {ext : Nat → Bytes → Bool} {fuel : Nat} {bs : Bytes} {ks : List Node} {rest : Bytes}
    (h : kidsIndef ext fuel bs = some (ks, rest)) :
    PrefixRead 0 bs rest fun i o => ∀ k, kidsIndef ext (fuel + k) i = some (ks, o) :=
  (parse_kids_prefix ext fuel).2.2 _ _ _ h

theorem kidsDef_len (ext : Nat → Bytes → Bool) (fuel remaining : Nat) (bs : Bytes) (ks : List Node) (rest : Bytes)
    (h : kidsDef ext fuel remaining bs = some (ks, rest)) : rest.length ≤ bs.length :=
  (kidsDef_prefix h).len

theorem kidsIndef_len (ext : Nat → Bytes → Bool) (fuel : Nat) (bs : Bytes) (ks : List Node) (rest : Bytes)
    (h : kidsIndef ext fuel bs = some (ks, rest)) : rest.length ≤ bs.length :=
  (kidsIndef_prefix h).len

/-- every packet read takes at least two bytes off the stream -/
theorem readPacket_len (ext : Nat → Bytes → Bool) (bs : Bytes) (n : Node) (rest : Bytes)
    (h : readPacket ext bs = some (n, rest)) : rest.length + 2 ≤ bs.length :=
  (parse_prefix h).len

theorem kidsDef_ext (ext : Nat → Bytes → Bool) (fuel remaining : Nat) (bs t : Bytes) (ks : List Node) (rest : Bytes)
    (h : kidsDef ext fuel remaining bs = some (ks, rest)) : kidsDef ext fuel remaining (bs ++ t) = some (ks, rest ++ t) :=
  (kidsDef_prefix h).ext t 0

theorem kidsIndef_ext (ext : Nat → Bytes → Bool) (fuel : Nat) (bs t : Bytes) (ks : List Node) (rest : Bytes)
    (h : kidsIndef ext fuel bs = some (ks, rest)) : kidsIndef ext fuel (bs ++ t) = some (ks, rest ++ t) :=
  (kidsIndef_prefix h).ext t 0

theorem kidsDef_fuel (ext : Nat → Bytes → Bool) (fuel remaining : Nat) (bs : Bytes) (r : List Node × Bytes)
    (h : kidsDef ext fuel remaining bs = some r) : kidsDef ext (fuel + 1) remaining bs = some r :=
  (kidsDef_prefix (rest := r.2) h).self 1

theorem kidsIndef_fuel (ext : Nat → Bytes → Bool) (fuel : Nat) (bs : Bytes) (r : List Node × Bytes)
    (h : kidsIndef ext fuel bs = some r) : kidsIndef ext (fuel + 1) bs = some r :=
  (kidsIndef_prefix (rest := r.2) h).self 1

/-- **The reader is streaming.** What `ber.ReadPacket` returns for the first element of a
    stream is the same whatever follows it on the stream. -/
theorem readPacket_ext (ext : Nat → Bytes → Bool) (bs t : Bytes) (n : Node) (rest : Bytes)
    (h : readPacket ext bs = some (n, rest)) : readPacket ext (bs ++ t) = some (n, rest ++ t) := by
  have := (parse_prefix h).ext t (2 * t.length)
  rwa [readPacket, show fuelFor (bs ++ t) = fuelFor bs + 2 * t.length by
    simp only [fuelFor, List.length_append]; omega]

end Ber
