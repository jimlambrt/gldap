import GldapModel.Gldap.Filter
/-! Helper lemmas for the filter round trip (`Props/C01.lean`): what `DecompileFilter` returns on the
    RFC 4511 encoding of a filter is the filter's RFC 4515 string. -/
namespace Gldap.Filter
open Ber

theorem subLoop_encode (first : Bool) (subs : List Sub) :
    subLoop first (subs.map encodeSub) = renderSubs first subs := by
  induction subs generalizing first with
  | nil => rfl
  | cons s ss ih =>
    cases s <;> cases first <;> simp [subLoop, renderSubs, encodeSub, Node.tag, Node.data, ih]

/-- the extensible match, for any octet `tt` in the place of TRUE: the flag arrives as `tt ≠ 0` -/
theorem decompile_ext (tt : UInt8) (rule type : Option Bytes) (value : Bytes) (dn : Bool) :
    decompile true (encode tt (.ext rule type value dn)) = some (render (.ext rule type value (dn && tt != 0))) := by
  cases rule <;> cases type <;> cases dn <;> rfl

mutual
theorem decompile_encode (tt : UInt8) (htt : tt ≠ 0) : ∀ f : Filter, decompile true (encode tt f) = some (render f)
  | .and fs => by simp [encode, decompile, render, decompileAll_encodeAll tt htt fs]
  | .or fs => by simp [encode, decompile, render, decompileAll_encodeAll tt htt fs]
  | .not f => by simp [encode, decompile, decompileFirst, render, decompile_encode tt htt f]
  | .eq a v => rfl
  | .substr a subs => by simp [encode, decompile, render, leaf, octet, Node.data, Node.kids, subLoop_encode]
  | .ge a v => rfl
  | .le a v => rfl
  | .present a => rfl
  | .approx a v => rfl
  | .ext rule type value dn => by
      rw [decompile_ext, bne_iff_ne.mpr htt, Bool.and_true]
theorem decompileAll_encodeAll (tt : UInt8) (htt : tt ≠ 0) :
    ∀ fs : List Filter, decompileAll true (encodeAll tt fs) = some (renderAll fs)
  | [] => rfl
  | f :: fs => by
      simp [encodeAll, decompileAll, renderAll, decompile_encode tt htt f, decompileAll_encodeAll tt htt fs]
end

/-! ### the repair is conservative -/

/-- `y` answers wherever `x` answers, and the same -/
def Le {α} (x y : Option α) : Prop := ∀ s, x = some s → y = some s

theorem Le.refl {α} {x : Option α} : Le x x := fun _ h => h
theorem Le.bind {α β} {x y : Option α} {f g : α → Option β} (h : Le x y) (hf : ∀ a, Le (f a) (g a)) :
    Le (x.bind f) (y.bind g) := by
  cases x with
  | none => exact fun _ h => nomatch h
  | some a => rw [h a (Eq.refl _)]; exact hf a
theorem Le.map {α β} {x y : Option α} (f : α → β) (h : Le x y) : Le (x.map f) (y.map f) := by
  cases x with
  | none => exact fun _ h => nomatch h
  | some a => rw [h a (Eq.refl _)]; exact .refl
theorem Le.ite {α} {c : Prop} [Decidable c] {a b a' b' : Option α} (h : c → Le a b) (h' : ¬c → Le a' b') :
    Le (if c then a else a') (if c then b else b') := by
  split
  · exact h ‹_›
  · exact h' ‹_›

theorem dnFlag_le (c : Node) : Le (dnFlag false c) (dnFlag true c) := by
  unfold dnFlag
  split
  · exact .refl
  · split
    · exact fun _ h => nomatch h  -- an undecoded octet: only the repaired source reads it
    · exact .refl
  · exact .refl

theorem extLoop_le : ∀ (cs : List Node) (a : ExtAcc), Le (extLoop false cs a) (extLoop true cs a)
  | [], _ => .refl
  | c :: cs, a => by
    simp only [extLoop]
    exact .ite (fun _ => extLoop_le cs _) fun _ => .ite (fun _ => extLoop_le cs _) fun _ => .ite (fun _ => extLoop_le cs _)
      fun _ => .ite (fun _ => .bind (dnFlag_le c) fun _ => extLoop_le cs _) fun _ => extLoop_le cs _

theorem leaf_le (t : Nat) (kids : List Node) (data : Bytes) : Le (leaf false t kids data) (leaf true t kids data) := by
  unfold leaf
  iterate 6 (refine .ite (fun _ => .refl) fun _ => ?_)  -- the tags 3 to 8 do not read the flag
  exact .ite (fun _ => .map _ (extLoop_le kids _)) fun _ => .refl

mutual
/-- the repair (decoding the dnAttributes flag before decompiling) only turns errors into answers: whatever the
    pre-fix pipeline delivered as the filter string, the repaired one delivers too -/
theorem decompile_mono : ∀ (n : Node) (s : Bytes), decompile false n = some s → decompile true n = some s
  | .prim c t content => by
    simp only [decompile]
    exact Le.ite (fun _ => .refl) fun _ => .ite (fun _ => .refl) fun _ => .ite (fun _ => .refl) fun _ => .map _ (leaf_le _ _ _)
  | .cons c t kids => by
    simp only [decompile]
    exact Le.ite (fun _ => .map _ (decompileAll_mono kids)) fun _ => .ite (fun _ => .map _ (decompileAll_mono kids))
      fun _ => .ite (fun _ => .map _ (decompileFirst_mono kids)) fun _ => .map _ (leaf_le _ _ _)
theorem decompileFirst_mono : ∀ (ks : List Node) (s : Bytes), decompileFirst false ks = some s → decompileFirst true ks = some s
  | [] => Le.refl
  | k :: _ => decompile_mono k
theorem decompileAll_mono : ∀ (ks : List Node) (s : Bytes), decompileAll false ks = some s → decompileAll true ks = some s
  | [] => Le.refl
  | k :: ks => by
    -- the `match` in `decompileAll` is a `bind`
    have e : ∀ b, decompileAll b (k :: ks) = (decompile b k).bind fun a => (decompileAll b ks).map (a ++ ·) := by
      intro b; rw [decompileAll]; cases decompile b k <;> rfl
    rw [e, e]
    exact Le.bind (decompile_mono k) fun _ => .map _ (decompileAll_mono ks)
end

/-! ### assertion values survive: `escape` has a left inverse -/

def unhexDigit (c : UInt8) : Nat := if c.toNat ≤ 57 then c.toNat - 48 else c.toNat - 87

/-- the inverse of `escape` (RFC 4515 `\\xx`), a proof device: go-ldap's own unescaping is not modelled -/
def unescape : Bytes → Bytes
  | c :: h :: l :: rest =>
    if c = 92 then (unhexDigit h * 16 + unhexDigit l).toUInt8 :: unescape rest else c :: unescape (h :: l :: rest)
  | c :: rest => c :: unescape rest
  | [] => []
termination_by l => l.length

theorem unescape_esc (h l : UInt8) (rest : Bytes) :
    unescape (92 :: h :: l :: rest) = (unhexDigit h * 16 + unhexDigit l).toUInt8 :: unescape rest := by
  rw [unescape, if_pos rfl]

theorem unescape_plain (c : UInt8) (hc : c ≠ 92) (rest : Bytes) : unescape (c :: rest) = c :: unescape rest := by
  match rest with
  | [] | [_] => simp [unescape]
  | _ :: _ :: _ => rw [unescape, if_neg hc]

theorem unescape_escape (v : Bytes) : unescape (escape v) = v := by
  have hex : ∀ n, n < 16 → unhexDigit (hexDigit n) = n := by decide
  induction v with
  | nil => rw [escape, unescape]
  | cons c cs ih =>
    rw [escape]
    split
    · have := c.toNat_lt
      have e : c.toNat / 16 * 16 + c.toNat % 16 = c.toNat := by omega
      rw [unescape_esc, hex _ (by omega), hex _ (by omega), e, ih, Nat.toUInt8_eq, UInt8.ofNat_toNat]
    · rename_i hm
      -- the backslash itself must be escaped, so an unescaped byte is none
      rw [unescape_plain c (by rintro rfl; exact hm rfl), ih]

theorem escape_injective (a b : Bytes) (h : escape a = escape b) : a = b := by
  rw [← unescape_escape a, h, unescape_escape]

/-- two assertions on the same attribute with the same operator render alike only if their values are equal -/
theorem ava_render_injective (a op v v' : Bytes) (h : paren (a ++ op ++ escape v) = paren (a ++ op ++ escape v')) : v = v' := by
  simp only [paren, List.cons.injEq, true_and] at h
  have h2 := List.append_cancel_right h
  have h3 := List.append_cancel_left h2
  exact escape_injective v v' h3

end Gldap.Filter
