import GldapModel.Proofs.ServerGood
/-! A ranking function for the server's own steps: every server-only label (the server's code, a handler
    returning, the teardown, a read loop ending because of the cancelled context) strictly decreases it.
    Hence, without further client actions, the server can take only boundedly many steps. -/
namespace Server

def Label.serverOnly : Label → Bool
  | .runListen _ | .runLoopTop | .runAcceptClosed | .runSpawn | .stopStep _ | .handlerEnd _ | .teardown _
  | .connExitShutdown _ => true
  | _ => false

/-- a connection's share: its running handlers, then one for the exit of its read loop and one per teardown step
    still to come (the good teardown has three) -/
def connM (c : Conn) : Nat :=
  c.live + (match c.gor with
    | .serving => 4
    | .exited k => 3 - k
    | .gone => 0)

/-- `accepted` must outrank `loopTop` plus a fresh connection (2 + `connM (newConn _)` = 6): `runSpawn` adds one -/
def runRank : RunPc → Nat
  | .returned _ => 0
  | .accepting => 1
  | .loopTop => 2
  | .notStarted => 3
  | .accepted => 7

def stopRank : StopPc → Nat
  | .idle => 4
  | .at k => 3 - k
  | .returned => 0

def mu (s : Srv) : Nat := runRank s.run + (s.stops.map stopRank).sum + (s.conns.map connM).sum

/-- a Stop call's next step lowers its rank: `at k` counts 3 - k, what follows it less -/
theorem stopRank_next {F : Facts} {k : Nat} (h3 : k < 3) : stopRank (stopNext F k) < stopRank (.at k) := by
  rw [stopNext]
  by_cases h : k + 1 = F.stopSeq.length
  · rw [if_pos h]; exact Nat.sub_pos_of_lt h3
  · rw [if_neg h]; exact Nat.sub_lt_sub_left h3 (Nat.lt_succ_self k)

/-- a teardown step lowers the connection's rank: `exited k` counts 3 - k, what follows it less -/
theorem connM_teardown {F : Facts} {x y : Conn} {k : Nat} (hk : x.gor = .exited k) (h3 : k < 3) (hl : y.live = x.live)
    (hg : y.gor = tdNext F k) : connM y < connM x := by
  rw [connM, connM, hl, hg, hk, tdNext]
  by_cases h : k + 1 = F.teardownSeq.length
  · rw [if_pos h]; exact Nat.add_lt_add_left (Nat.sub_pos_of_lt h3) _
  · rw [if_neg h]; exact Nat.add_lt_add_left (Nat.sub_lt_sub_left h3 (Nat.lt_succ_self k)) _

theorem ConnStep.connM_lt {c : Nat} {x : Conn} {l : Label} {f : Conn → Conn} {d : Nat} (h : ConnStep goodFacts c x l f d)
    (hl : l.serverOnly = true ∨ ∃ c, l = .connExit c) : connM (f x) < connM x := by
  cases h with
  | exit h => simp [connM, h]
  | handlerStart => simp [Label.serverOnly] at hl
  | handlerEnd h => simp only [connM]; omega
  | wgDone hk hop | connClose hk hop | onClose hk hop =>
    exact connM_teardown hk (List.getElem?_eq_some_iff.mp hop).1 rfl rfl

/-- every server-only step of the core relation strictly decreases the measure; so does `connExit`, which is not
    server-only itself but is the core label of the server-only `connExitShutdown` -/
theorem mu_core {s s' : Srv} {l : Label} (hn : (idsOf s).Nodup) (hl : l.serverOnly = true ∨ ∃ c, l = .connExit c)
    (hs : CoreStep goodFacts s l s') : mu s' < mu s := by
  have stop : ∀ {i p q}, s.stops[i]? = some p → stopRank q < stopRank p →
      mu { s with stops := s.stops.set i q } < mu s := fun {i p q} hi hq => by
    have := sum_set stopRank s.stops i p q hi
    simp only [mu]; omega
  cases hs with
  | listen ok hr => cases ok <;> simp [mu, hr, runRank]
  | loopTopCancelled hr | loopTop hr | acceptClosed hr | spawnRefused hr => simp [mu, hr, runRank]
  | spawn hr => simp [mu, hr, runRank, connM, newConn]; omega
  | acceptOk | acceptErr => simp [Label.serverOnly] at hl
  | stopIdle hi => exact stop hi (by decide)
  | stopClose hi hop | stopCancel hi hop | stopWait hi hop =>
    exact stop hi (stopRank_next (List.getElem?_eq_some_iff.mp hop).1)
  | @conn _ x _ f _ hx hc =>
    obtain ⟨i, hi, e⟩ := modConn_eq_set f hn hx
    have := sum_set connM s.conns i x (f x) hi
    have := hc.connM_lt hl
    simp only [mu, e]; omega

theorem mu_step (s s' : Srv) (l : Label) (h : Inv s) (hl : l.serverOnly = true)
    (hs : step goodFacts s l = some s') : mu s' < mu s := by
  cases l with
  | connExitShutdown c => exact mu_core h.i.nodup (.inr ⟨c, rfl⟩) (step_good hs)
  | connPanic | handlerPanic => cases hl
  | _ => exact mu_core h.i.nodup (.inl hl) (step_good hs)

/-- a run of server-only steps from a state satisfying the invariant is no longer than the measure -/
theorem mu_run (ls : List Label) (s s' : Srv) (h : Inv s) (hl : ∀ l ∈ ls, l.serverOnly = true)
    (hr : run goodFacts s ls = some s') : ls.length + mu s' ≤ mu s := by
  refine (isRun _).induction (P := fun s ls s' => Inv s → (∀ l ∈ ls, l.serverOnly = true) → ls.length + mu s' ≤ mu s)
    (fun _ _ _ => Nat.le_of_eq (Nat.zero_add _)) (fun {s l m ls s'} h1 ih h hl => ?_) hr h hl
  have := mu_step s m l h (hl l List.mem_cons_self) h1
  have := ih (inv_step h h1) fun x hx => hl x (List.mem_cons_of_mem _ hx)
  simp only [List.length_cons]; omega

end Server
