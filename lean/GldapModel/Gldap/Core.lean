import GldapModel.Ber.Parse
import GldapModel.Ber.Int
/-! Shared vocabulary of the gldap model: three-valued outcomes (`ok | err | panic`), the
    dynamic `Packet.Value`, `packet.assert`, guard flags. Go strings are `Bytes`. -/
namespace Gldap
open Ber

inductive Outcome (α : Type) where
  | ok (a : α) | err | panic
  deriving Repr, DecidableEq

instance : Monad Outcome where
  pure := .ok
  bind x f := match x with | .ok a => f a | .err => .err | .panic => .panic

def NoPanic {α} (x : Outcome α) : Prop := x ≠ .panic

/-! The monad by its equations: proofs rewrite with these and never unfold `bind` / `pure`. -/
namespace Outcome
variable {α β : Type}
@[simp] theorem pure_eq (a : α) : (pure a : Outcome α) = .ok a := rfl
@[simp] theorem ok_bind (a : α) (f : α → Outcome β) : (Outcome.ok a >>= f) = f a := rfl
@[simp] theorem err_bind (f : α → Outcome β) : (Outcome.err >>= f) = .err := rfl
@[simp] theorem panic_bind (f : α → Outcome β) : (Outcome.panic >>= f) = .panic := rfl

theorem bind_eq_ok {x : Outcome α} {f : α → Outcome β} {b : β} :
    (x >>= f) = .ok b ↔ ∃ a, x = .ok a ∧ f a = .ok b := by
  cases x <;> simp

theorem ite_eq_ok {c : Prop} [Decidable c] {x y : Outcome α} {a : α} :
    (if c then x else y) = .ok a ↔ c ∧ x = .ok a ∨ ¬ c ∧ y = .ok a := by
  split <;> simp [*]

/-- `y` delivers wherever `x` delivers, and the same -/
def Le (x y : Outcome α) : Prop := ∀ a, x = .ok a → y = .ok a

theorem Le.refl {x : Outcome α} : x.Le x := fun _ h => h
theorem Le.bind {x y : Outcome α} {k₁ k₂ : α → Outcome β} (hx : x.Le y) (hk : ∀ a, (k₁ a).Le (k₂ a)) :
    (x >>= k₁).Le (y >>= k₂) := by
  cases x with
  | ok a => rw [hx a rfl]; exact hk a
  | err => exact fun _ h => nomatch h
  | panic => exact fun _ h => nomatch h
end Outcome

@[simp] theorem np_ok {α} (a : α) : NoPanic (Outcome.ok a) := nofun
@[simp] theorem np_err {α} : NoPanic (Outcome.err : Outcome α) := nofun
theorem np_iff {α} {x : Outcome α} : NoPanic x ↔ (∃ a, x = .ok a) ∨ x = .err := by
  cases x <;> simp [NoPanic]
theorem np_bind {α β} {x : Outcome α} {f : α → Outcome β} (hx : NoPanic x) (hf : ∀ a, NoPanic (f a)) :
    NoPanic (x >>= f) := by
  cases x with
  | ok a => exact hf a
  | err => exact np_err
  | panic => exact absurd rfl hx
theorem np_ite {α} {c : Prop} [Decidable c] {x y : Outcome α} (hx : NoPanic x) (hy : NoPanic y) :
    NoPanic (if c then x else y) := by
  split <;> assumption

/-- an unguarded site panics, a guarded one returns an error -/
def fail (guarded : Bool) {α} : Outcome α := if guarded then .err else .panic
@[simp] theorem fail_guarded {α} : (fail true : Outcome α) = .err := rfl
@[simp] theorem fail_ne_ok {α} (b : Bool) (a : α) : (fail b : Outcome α) ≠ .ok a := by
  cases b <;> simp [fail]
theorem fail_unguarded {α} : (fail false : Outcome α) = .panic := rfl

inductive Val where
  | none | bool (b : Bool) | int (i : Int) | str (s : Bytes) | other
  deriving Repr, DecidableEq

/-- `ber.ParseInt64` with the error ignored, as `readPacket` does for Integer/Enumerated/Boolean -/
def parseIntLoose (c : Bytes) : Int := (parseInt64 c).getD 0

/-- what `ber.readPacket` leaves in `Packet.Value` -/
def valueOf : Node → Val
  | .prim 0 1 c => .bool (parseIntLoose c != 0)
  | .prim 0 2 c => .int (parseIntLoose c)
  | .prim 0 10 c => .int (parseIntLoose c)
  | .prim 0 4 c => .str c
  | .prim 0 12 c => .str c        -- UTF8String (validated by the reader)
  | .prim 0 19 c => .str c        -- PrintableString
  | .prim 0 22 c => .str c        -- IA5String
  | .prim 0 9 _ => .other         -- Real (float64)
  | .prim 0 24 _ => .other        -- GeneralizedTime (time.Time)
  | _ => .none

/-- `packet.assert(cl, ty, withTag?)` on the node itself -/
def isKind (n : Node) (cls : Nat) (constructed : Bool) (tag : Option Nat) : Bool :=
  n.cls == cls && n.constructed == constructed && (match tag with | none => true | some t => n.tag == t)

/-- `packet.assert(cl, ty, withTag?, withAssertChild(i))` -/
def childIs (n : Node) (i : Nat) (cls : Nat) (constructed : Bool) (tag : Option Nat) : Bool :=
  match n.kids[i]? with
  | none => false
  | some k => isKind k cls constructed tag

/-- Per-site guard flags of the decode path and of the exported helpers: `true` when the Go
    source checks before it asserts / indexes / dereferences. Regenerated from the source. -/
structure Guards where
  bindVersionMsg : Bool     -- packet.go  requestPacket: no unchecked `.Value.(int64)` in the version error
  ctrlType : Bool           -- control.go decodeControl: Children[0].Value.(string) checked
  ctrlCrit : Bool           -- control.go decodeControl: Children[1].Value.(bool) checked (3-child case)
  pagingShape : Bool        -- control.go decodeControl: value.Children[0].Children[0/1] length-checked
  pagingSize : Bool         -- control.go decodeControl: .Value.(int64) checked
  beheraWarn : Bool         -- control.go decodeControl: child.Children[0] length-checked
  ctrlValue : Bool          -- control.go decodeControl: value.Value.(string) checked
  convertEmpty : Bool       -- request.go ConvertString: len(data) checked before data[0]
  readLenBounds : Bool      -- request.go readLength: bounds checked before bytes[0] / bytes[read]
  modifyRespCode : Bool     -- request.go NewModifyResponse: nil response code defaulted
  deriving Repr, DecidableEq

def Guards.decodeAll (g : Guards) : Bool :=
  g.bindVersionMsg && g.ctrlType && g.ctrlCrit && g.pagingShape && g.pagingSize && g.beheraWarn && g.ctrlValue

def Guards.helpersAll (g : Guards) : Bool :=
  g.convertEmpty && g.readLenBounds && g.modifyRespCode

def allGuards : Guards := ⟨true, true, true, true, true, true, true, true, true, true⟩
def noGuards : Guards := ⟨false, false, false, false, false, false, false, false, false, false⟩

end Gldap
